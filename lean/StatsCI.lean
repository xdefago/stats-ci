-- Root of the `StatsCI` library: the executable model and the property files; every lemma module
-- comes in through them. The driver is the root of the executable (`StatsCI.Driver`) and is not
-- imported here; the axiom audit runs outside the library, on files `bin/check` generates.
import StatsCI.Model.Basic
import StatsCI.Model.Interval
import StatsCI.Model.Confidence
import StatsCI.Model.Kahan
import StatsCI.Model.Stats
import StatsCI.Model.Mean
import StatsCI.Model.Comparison
import StatsCI.Model.Proportion
import StatsCI.Model.Quantile
import StatsCI.Model.Instances
import StatsCI.Lemmas.Order
import StatsCI.Properties.C07
import StatsCI.Model.Program
import StatsCI.Lemmas.RR
import StatsCI.Properties.C02
import StatsCI.Properties.C03
import StatsCI.Properties.C08
import StatsCI.Properties.C09
import StatsCI.Properties.C12
import StatsCI.Properties.C17
import StatsCI.Properties.C13
import StatsCI.Properties.C14
import StatsCI.Properties.C15
import StatsCI.Properties.C19
import StatsCI.Properties.C01
import StatsCI.Properties.C04
import StatsCI.Properties.C05
import StatsCI.Properties.C16
import StatsCI.Properties.C18
import StatsCI.Properties.C06
import StatsCI.Properties.C11
import StatsCI.Model.Serde
import StatsCI.Properties.C20
import StatsCI.Properties.C10
import StatsCI.Properties.C01R
import StatsCI.Properties.C02R
import StatsCI.Properties.C03R
import StatsCI.Properties.C04R
import StatsCI.Properties.C05R
