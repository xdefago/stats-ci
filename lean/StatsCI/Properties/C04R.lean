/-
  C04R — Forward rounding-error bounds for the two comparison producers `Paired`, `Unpaired`.

  The model functions (`Paired.extend`, `Paired.ci`, `Unpaired.ciPrep`, `Unpaired.ciMean`,
  `Unpaired.ci`) are run at the carrier `RR fl` (ℝ with a rounding function `fl` applied after
  every operation) on real data and compared with the exact statistics of the same data
  (C04: at `Rex` these are what the model computes).  Hypotheses on `(fl, u)`, as in C01R:

  * `hfl : ∀ x, |fl x − x| ≤ u·|x|`, `hu : 0 ≤ u`;
  * sizes `≥ 2`, `n·u ≤ 1/1024` with `n` the number of pairs (paired) resp. `na + nb` (unpaired);
  * `hnat`: `fl m = m` for the natural numbers `m ≤ n` (the counts and, for the degrees of
    freedom, their successors).

  Not modelled (as everywhere at `RR fl`): overflow, NaN, gradual underflow.

  Notation (`Lemmas/UnpairedRound.lean`, `Lemmas/SampleStats.lean`, `Lemmas/MeanUnpaired.lean`):
  `flDiffs fl as bs = (zipWith (−) as bs).map fl` — the rounded differences `d̃ᵢ = fl (aᵢ − bᵢ)`;
  `smean`, `svar`, `ssd` — exact sample mean, variance, standard deviation;
  `meanAbs xs = Σ|x|/n`; `sqTerm xs = Σx²/((n − 1)·n)`; `welchA xs = s²/n`;
  `welchNu as bs` — the exact effective degrees of freedom `ν` (C04 `unpaired_dof_formula`);
  `clampedDof A B na nb = max (welchDof A B na nb) (min na nb − 1)` — what the model hands on at
  exact arithmetic (C04 `unpaired_dof_clamped`);
  `ofLists fl as bs = Unpaired.fromLists (as.map inj) (bs.map inj)` at `RR fl`;
  `dofFl U` — the model's `Unpaired.effectiveDof` at `RR fl` on the computed `sa²/na`, `sb²/nb` and
  the two counts (the computed Welch value, before the lower bound is applied).

  A. Paired.  The state built at `RR fl` is the `Arith` state of `d̃`, so C01R applies verbatim
     with `xs := d̃`; the exact statistics of `d̃` and of `d` differ by `u·Σ|d|/n` (mean) and
     `u·√(Σd²/(n − 1))` (standard deviation: it is a seminorm, constant `K = 1`).
  B. Unpaired with a constant critical value `c`: mean difference `15`, `sa²/na + sb²/nb` `53`,
     standard error `8·√(u·W)` / `55u·W/se`, interval `17`, `1 + 3u`, `3`
     (`W = sqTerm as + sqTerm bs`).  The constants are not tight.
  C. The effective degrees of freedom. The value handed on is the computed Welch value `dofFl`
     bounded below by the computed `fl (min (fl na) (fl nb) − 1)` (the crate's lower bound,
     `Unpaired.clampDof`): which quantile is requested at `RR fl`; the value handed on is positive
     at every `fl` with `u < 1/2`, and `≥ min(na, nb) − 1 ≥ 1` when `fl` is exact on the counts
     and on `min(na, nb) − 1` — `t_value` does not panic, two constant samples included (they
     give the degenerate interval at the rounded mean difference); `dofFl` itself is positive
     unless both computed standard deviations vanish (then it is negative, at every `fl`);
     `|dofFl − ν| ≤ (255·κ + 19)·u·(ν + 2)` for both variances positive and
     `κ ≥ Σx²/((n − 1)s²)` on both sides, `51·u·κ ≤ 1/64`; an absolute form
     `((5/4)(2η + ρ) + 19u)·(ν + 2)` that allows one variance to vanish; the same bounds for the
     value handed on (`max` is 1-Lipschitz and `ν ≥ min(na, nb) − 1`); `ν ≤ na + nb`.
     (`ν ≥ min(na, nb) − 1 ≥ 1` is C04 `dof_pos_samples`, not repeated here.)
-/
import StatsCI.Lemmas.UnpairedRound
import StatsCI.Properties.C01R

namespace StatsCI.C04R
open StatsCI StatsCI.MeanLemmas StatsCI.MeanRound StatsCI.UnpairedRound NumOps Scalar

variable {fl : ℝ → ℝ} {u : ℝ}

/-! ### A. Paired -/

/-- **The paired state at `RR fl`.** For two equally long real samples, `Paired::extend` on the
    empty state succeeds and both the returned and the left-behind state are the `Arith` state of
    the rounded differences `d̃ᵢ = fl (aᵢ − bᵢ)`; hence `Paired::ci` is `Arithmetic::ci` of `d̃`
    (for every critical-value oracle), and there are as many differences as pairs. -/
theorem paired_state (crit : Crit (RR fl)) (conf : Confidence (RR fl)) (as bs : List ℝ)
    (h : as.length = bs.length) :
    flDiffs fl as bs = (List.zipWith (fun a b => a - b) as bs).map fl ∧
    (Paired.extend (Paired.empty : Paired (RR fl)) (as.map inj) (bs.map inj) :
        Outcome (Err (RR fl)) (Paired (RR fl)) × Paired (RR fl)) =
      (.ok ⟨Arith.fromList ((flDiffs fl as bs).map inj)⟩,
        ⟨Arith.fromList ((flDiffs fl as bs).map inj)⟩) ∧
    Paired.ci crit conf (as.map (inj : ℝ → RR fl)) (bs.map inj) =
      Arith.ci crit conf ((flDiffs fl as bs).map (inj : ℝ → RR fl)) ∧
    (flDiffs fl as bs).length = as.length :=
  ⟨rfl, paired_extend_fl as bs h, paired_ci_fl crit conf as bs h, flDiffs_length as bs h⟩

/-- **Paired statistics.** `sample_mean()`, the variance and the standard deviation of the paired
    state at `RR fl` against the exact statistics of the rounded differences `d̃`: the C01R
    bounds `13u·Σ|d̃|/n`, `44u·Σd̃²/(n − 1)`, `7·√(u·Σd̃²/(n − 1))` and (relative form)
    `|sd_fl − s|·s ≤ 46u·Σd̃²/(n − 1)`. -/
theorem paired_stats_error (hfl : ∀ x, |fl x - x| ≤ u * |x|) (hu : 0 ≤ u) (as bs : List ℝ)
    (h : as.length = bs.length) (hn : 2 ≤ as.length) (hs : (as.length : ℝ) * u ≤ 1 / 1024)
    (hnat : ∀ m : ℕ, m ≤ as.length → fl m = m) :
    let P : Paired (RR fl) := ⟨Arith.fromList ((flDiffs fl as bs).map inj)⟩
    |P.mean.val - smean (flDiffs fl as bs)| ≤
      13 * u * (((flDiffs fl as bs).map abs).sum / as.length) ∧
    |P.stats.variance.val - svar (flDiffs fl as bs)| ≤
      44 * u * (((flDiffs fl as bs).map (fun x => x * x)).sum / ((as.length : ℝ) - 1)) ∧
    |P.stats.stdDev.val - ssd (flDiffs fl as bs)| ≤
      7 * Real.sqrt (u * (((flDiffs fl as bs).map (fun x => x * x)).sum
        / ((as.length : ℝ) - 1))) ∧
    |P.stats.stdDev.val - ssd (flDiffs fl as bs)| * ssd (flDiffs fl as bs) ≤
      46 * u * (((flDiffs fl as bs).map (fun x => x * x)).sum / ((as.length : ℝ) - 1)) := by
  intro P
  rw [← flDiffs_length (fl := fl) as bs h] at hn hs hnat ⊢
  exact ⟨mean_bound hfl hu _ hn hs hnat, variance_bound hfl hu _ hn hs hnat,
    stdDev_bound hfl hu _ hn hs hnat⟩

/-- **Paired interval, closed form valid for every sample.** With a constant critical value
    `c ≥ 0` and an admissible probability, `Paired::ci` at `RR fl` hands two bounds to the interval
    constructor of the kind of `conf`; each is within the C01R bound, expressed in the rounded
    differences `d̃`, of the exact one-sample bound `x̄(d̃) ∓ c·s(d̃)/√n` of the rounded
    differences. -/
theorem paired_interval_error_sqrt (hfl : ∀ x, |fl x - x| ≤ u * |x|) (hu : 0 ≤ u)
    (as bs : List ℝ) (h : as.length = bs.length) (hn : 2 ≤ as.length)
    (hs : (as.length : ℝ) * u ≤ 1 / 1024) (hnat : ∀ m : ℕ, m ≤ as.length → fl m = m)
    (c : ℝ) (hc : 0 ≤ c) (conf : Confidence (RR fl)) (hp : probOk conf.quantile = true) :
    ∃ lo hi : ℝ,
      Paired.ci (constCrit c) conf (as.map (inj : ℝ → RR fl)) (bs.map inj) =
        intervalOfKind conf (⟨lo⟩ : RR fl) ⟨hi⟩ ∧
      |lo - (smean (flDiffs fl as bs) - c * (ssd (flDiffs fl as bs) / Real.sqrt as.length))| ≤
        15 * u * (((flDiffs fl as bs).map abs).sum / as.length)
          + (1 + 8 * u) * (c * (7 * Real.sqrt (u * (((flDiffs fl as bs).map (fun x => x * x)).sum
              / ((as.length : ℝ) - 1))) / Real.sqrt as.length))
          + 7 * u * (c * (ssd (flDiffs fl as bs) / Real.sqrt as.length)) ∧
      |hi - (smean (flDiffs fl as bs) + c * (ssd (flDiffs fl as bs) / Real.sqrt as.length))| ≤
        15 * u * (((flDiffs fl as bs).map abs).sum / as.length)
          + (1 + 8 * u) * (c * (7 * Real.sqrt (u * (((flDiffs fl as bs).map (fun x => x * x)).sum
              / ((as.length : ℝ) - 1))) / Real.sqrt as.length))
          + 7 * u * (c * (ssd (flDiffs fl as bs) / Real.sqrt as.length)) := by
  rw [paired_ci_fl _ _ _ _ h]
  rw [← flDiffs_length (fl := fl) as bs h] at hn hs hnat ⊢
  exact C01R.interval_error_sqrt hfl hu _ hn hs hnat c hc conf hp

/-- **Paired interval, `κ`-form.** For `s²(d̃) > 0`, with `κ = Σd̃²/((n − 1)·s²(d̃))` and
    `halfwidth = c·s(d̃)/√n`: each bound is within `47·u·(Σ|d̃|/n + halfwidth·(1 + κ))` of the exact
    one-sample bound of the rounded differences (C01R `interval_error_kappa`). -/
theorem paired_interval_error_kappa (hfl : ∀ x, |fl x - x| ≤ u * |x|) (hu : 0 ≤ u)
    (as bs : List ℝ) (h : as.length = bs.length) (hn : 2 ≤ as.length)
    (hs : (as.length : ℝ) * u ≤ 1 / 1024) (hnat : ∀ m : ℕ, m ≤ as.length → fl m = m)
    (c : ℝ) (hc : 0 ≤ c) (conf : Confidence (RR fl)) (hp : probOk conf.quantile = true)
    (hpos : 0 < svar (flDiffs fl as bs)) :
    ∃ lo hi : ℝ,
      Paired.ci (constCrit c) conf (as.map (inj : ℝ → RR fl)) (bs.map inj) =
        intervalOfKind conf (⟨lo⟩ : RR fl) ⟨hi⟩ ∧
      |lo - (smean (flDiffs fl as bs) - c * (ssd (flDiffs fl as bs) / Real.sqrt as.length))| ≤
        47 * u * (((flDiffs fl as bs).map abs).sum / as.length
          + c * (ssd (flDiffs fl as bs) / Real.sqrt as.length) *
            (1 + ((flDiffs fl as bs).map (fun x => x * x)).sum / ((as.length : ℝ) - 1)
              / svar (flDiffs fl as bs))) ∧
      |hi - (smean (flDiffs fl as bs) + c * (ssd (flDiffs fl as bs) / Real.sqrt as.length))| ≤
        47 * u * (((flDiffs fl as bs).map abs).sum / as.length
          + c * (ssd (flDiffs fl as bs) / Real.sqrt as.length) *
            (1 + ((flDiffs fl as bs).map (fun x => x * x)).sum / ((as.length : ℝ) - 1)
              / svar (flDiffs fl as bs))) := by
  rw [paired_ci_fl _ _ _ _ h]
  rw [← flDiffs_length (fl := fl) as bs h] at hn hs hnat ⊢
  exact C01R.interval_error_kappa hfl hu _ hn hs hnat c hc conf hp hpos

/-- **Rounded against exact differences.** With `d = zipWith (−) as bs` (exact) and
    `d̃ = d.map fl`: the exact sample means differ by at most `u·Σ|d|/n`, the exact sample
    standard deviations by at most `u·√(Σd²/(n − 1))` (constant `1`: the sample standard deviation
    is a seminorm and `|d̃ᵢ − dᵢ| ≤ u·|dᵢ|`); and the magnitudes in which the C01R bounds of `d̃` are
    expressed are those of `d` up to `1 + u`, `(1 + u)²`. -/
theorem diffs_perturbation (hfl : ∀ x, |fl x - x| ≤ u * |x|) (hu : 0 ≤ u) (as bs : List ℝ)
    (h : as.length = bs.length) (hn : 2 ≤ as.length) :
    let d := List.zipWith (fun a b => a - b) as bs
    |smean (flDiffs fl as bs) - smean d| ≤ u * ((d.map abs).sum / as.length) ∧
    |ssd (flDiffs fl as bs) - ssd d| ≤
      u * Real.sqrt ((d.map (fun x => x * x)).sum / ((as.length : ℝ) - 1)) ∧
    ((flDiffs fl as bs).map abs).sum ≤ (1 + u) * (d.map abs).sum ∧
    ((flDiffs fl as bs).map (fun x => x * x)).sum ≤ (1 + u) ^ 2 * (d.map (fun x => x * x)).sum := by
  intro d
  have hl : d.length = as.length := diffs_length as bs h
  have hr := MeanLogRound.relClose_map_fl hfl d
  have h1 := hr.smean_close (by rw [hl]; omega)
  have h2 := hr.ssd_close hu (by rw [hl]; exact hn)
  rw [hl] at h1 h2
  exact ⟨h1, h2, hr.sumAbs_le, by rw [pow_two]; exact hr.sumSq_le hu⟩

/-- **Paired interval against the exact interval of the exact differences.** The bounds `lo`, `hi`
    of `Paired::ci` at `RR fl` against `x̄(d) ∓ c·s(d)/√n`, `d` the exact differences: the C01R
    bound of `paired_interval_error_sqrt` (in `d̃`) plus `u·Σ|d|/n + c·u·√(Σd²/(n − 1))/√n`. -/
theorem paired_interval_total (hfl : ∀ x, |fl x - x| ≤ u * |x|) (hu : 0 ≤ u)
    (as bs : List ℝ) (h : as.length = bs.length) (hn : 2 ≤ as.length)
    (hs : (as.length : ℝ) * u ≤ 1 / 1024) (hnat : ∀ m : ℕ, m ≤ as.length → fl m = m)
    (c : ℝ) (hc : 0 ≤ c) (conf : Confidence (RR fl)) (hp : probOk conf.quantile = true) :
    let d := List.zipWith (fun a b => a - b) as bs
    let B := 15 * u * (((flDiffs fl as bs).map abs).sum / as.length)
      + (1 + 8 * u) * (c * (7 * Real.sqrt (u * (((flDiffs fl as bs).map (fun x => x * x)).sum
          / ((as.length : ℝ) - 1))) / Real.sqrt as.length))
      + 7 * u * (c * (ssd (flDiffs fl as bs) / Real.sqrt as.length))
      + (u * ((d.map abs).sum / as.length)
        + c * (u * Real.sqrt ((d.map (fun x => x * x)).sum / ((as.length : ℝ) - 1))
            / Real.sqrt as.length))
    ∃ lo hi : ℝ,
      Paired.ci (constCrit c) conf (as.map (inj : ℝ → RR fl)) (bs.map inj) =
        intervalOfKind conf (⟨lo⟩ : RR fl) ⟨hi⟩ ∧
      |lo - (smean d - c * (ssd d / Real.sqrt as.length))| ≤ B ∧
      |hi - (smean d + c * (ssd d / Real.sqrt as.length))| ≤ B := by
  intro d B
  obtain ⟨lo, hi, e, b1, b2⟩ := paired_interval_error_sqrt hfl hu as bs h hn hs hnat c hc conf hp
  -- the reference moves with the data (`diffs_perturbation`)
  obtain ⟨pm, ps, -, -⟩ := diffs_perturbation hfl hu as bs h hn
  have pw := Rounding.mul_left_close c
    (Rounding.div_right_close (Real.sqrt_pos.mpr (natCast_pos hn)) ps)
  rw [abs_of_nonneg hc] at pw
  exact ⟨lo, hi, e, Rounding.trans_close b1 (Rounding.sub_close pm pw),
    Rounding.trans_close b2 (Rounding.add_close pm pw)⟩

/-! ### B. Unpaired, constant critical value -/

/-- **Mean difference.** At `RR fl` the guards of `Unpaired::ci_mean` pass and the mean difference
    `d` handed to `interval_bounds` satisfies
    `|d − (x̄a − x̄b)| ≤ 13u·(Σ|a|/na + Σ|b|/nb) + u·(|x̄a − x̄b| + 13u·(Σ|a|/na + Σ|b|/nb))`
    (the two means, C01R, then the final subtraction) and hence `≤ 15u·(Σ|a|/na + Σ|b|/nb)`. -/
theorem unpaired_meanDiff_error (hfl : ∀ x, |fl x - x| ≤ u * |x|) (hu : 0 ≤ u) (as bs : List ℝ)
    (hna : 2 ≤ as.length) (hnb : 2 ≤ bs.length)
    (hs : ((as.length : ℝ) + bs.length) * u ≤ 1 / 1024)
    (hnat : ∀ m : ℕ, m ≤ as.length + bs.length → fl m = m) :
    ∃ d se dof : ℝ,
      (Unpaired.ciPrep (Unpaired.fromLists (as.map inj) (bs.map inj) : Unpaired (RR fl)) :
        Outcome (Err (RR fl)) (Arith.Prep (RR fl))) = .ok ⟨⟨d⟩, ⟨se⟩, ⟨dof⟩⟩ ∧
      |d - (smean as - smean bs)| ≤
        13 * u * (meanAbs as + meanAbs bs)
          + u * (|smean as - smean bs| + 13 * u * (meanAbs as + meanAbs bs)) ∧
      |d - (smean as - smean bs)| ≤ 15 * u * (meanAbs as + meanAbs bs) := by
  have hp := ciPrep_ofLists fl as bs hna hnb
  obtain ⟨h1, h2⟩ := diff_bound hfl hu as bs hna hnb hs hnat
  exact ⟨_, _, _, hp, h1, h2⟩

/-- **Standard error.** The standard error handed to `interval_bounds` at `RR fl` is
    `fl (√S)` with `S ≥ 0` the computed `sa²/na + sb²/nb`;
    `|S − (sa²/na + sb²/nb)| ≤ 53u·W`, `W = Σa²/((na − 1)na) + Σb²/((nb − 1)nb)`
    (C01R `variance_error` on each side, squaring the rounded square root, a division on each side,
    one addition);
    `|se_fl − se| ≤ 8·√(u·W)` (valid also for `se = 0`) and `|se_fl − se|·se ≤ 55u·W`
    (the relative form, for `se > 0`), `se = √(sa²/na + sb²/nb)`. -/
theorem unpaired_stdErr_error (hfl : ∀ x, |fl x - x| ≤ u * |x|) (hu : 0 ≤ u) (as bs : List ℝ)
    (hna : 2 ≤ as.length) (hnb : 2 ≤ bs.length)
    (hs : ((as.length : ℝ) + bs.length) * u ≤ 1 / 1024)
    (hnat : ∀ m : ℕ, m ≤ as.length + bs.length → fl m = m) :
    ∃ d S dof : ℝ,
      (Unpaired.ciPrep (Unpaired.fromLists (as.map inj) (bs.map inj) : Unpaired (RR fl)) :
        Outcome (Err (RR fl)) (Arith.Prep (RR fl))) = .ok ⟨⟨d⟩, ⟨fl (Real.sqrt S)⟩, ⟨dof⟩⟩ ∧
      0 ≤ S ∧
      |S - (welchA as + welchA bs)| ≤ 53 * u * (sqTerm as + sqTerm bs) ∧
      |fl (Real.sqrt S) - Real.sqrt (welchA as + welchA bs)| ≤
        8 * Real.sqrt (u * (sqTerm as + sqTerm bs)) ∧
      |fl (Real.sqrt S) - Real.sqrt (welchA as + welchA bs)| *
        Real.sqrt (welchA as + welchA bs) ≤ 55 * u * (sqTerm as + sqTerm bs) := by
  have hp := ciPrep_ofLists fl as bs hna hnb
  obtain ⟨h1, h2⟩ := sumS2n_bound hfl hu as bs hna hnb hs hnat
  obtain ⟨h3, h4⟩ := se_bound hfl hu as bs hna hnb hs hnat
  exact ⟨_, sumS2nFl (ofLists fl as bs), _, hp, h2, h1, h3, h4⟩

/-- **Unpaired interval, closed form, valid for every pair of samples.** With a constant critical
    value `c ≥ 0` and an admissible probability, `Unpaired::ci` at `RR fl` hands two bounds to the
    interval constructor of the kind of `conf` (the degrees of freedom handed on are at least
    `min(na, nb) − 1 ≥ 1` by the crate's lower bound, so `t_value` does not panic — also for two
    constant samples, where `se = 0`); each differs from the exact `(x̄a − x̄b) ∓ c·se` by at most
    `17u·(Σ|a|/na + Σ|b|/nb) + (1 + 3u)·c·8·√(u·W) + 3u·c·se`.
    The dependence of the quantile on the computed degrees of freedom is factored out: `c` is
    whatever the oracle answers (part C bounds the degrees of freedom themselves). -/
theorem unpaired_interval_error_sqrt (hfl : ∀ x, |fl x - x| ≤ u * |x|) (hu : 0 ≤ u)
    (as bs : List ℝ) (hna : 2 ≤ as.length) (hnb : 2 ≤ bs.length)
    (hs : ((as.length : ℝ) + bs.length) * u ≤ 1 / 1024)
    (hnat : ∀ m : ℕ, m ≤ as.length + bs.length → fl m = m) (c : ℝ) (hc : 0 ≤ c)
    (conf : Confidence (RR fl)) (hp : probOk conf.quantile = true) :
    ∃ lo hi : ℝ,
      Unpaired.ci (constCrit c) conf (as.map (inj : ℝ → RR fl)) (bs.map inj) =
        intervalOfKind conf (⟨lo⟩ : RR fl) ⟨hi⟩ ∧
      |lo - ((smean as - smean bs) - c * Real.sqrt (welchA as + welchA bs))| ≤
        17 * u * (meanAbs as + meanAbs bs)
          + (1 + 3 * u) * (c * (8 * Real.sqrt (u * (sqTerm as + sqTerm bs))))
          + 3 * u * (c * Real.sqrt (welchA as + welchA bs)) ∧
      |hi - ((smean as - smean bs) + c * Real.sqrt (welchA as + welchA bs))| ≤
        17 * u * (meanAbs as + meanAbs bs)
          + (1 + 3 * u) * (c * (8 * Real.sqrt (u * (sqTerm as + sqTerm bs))))
          + 3 * u * (c * Real.sqrt (welchA as + welchA bs)) := by
  obtain ⟨b1, b2⟩ := unpaired_bounds_bound hfl hu as bs hna hnb hs hnat c hc
    (se_bound hfl hu as bs hna hnb hs hnat).1
  exact ⟨_, _, ci_ofLists as bs hna hnb hnat c conf hp, b1, b2⟩

/-- **Unpaired interval, relative form.** For samples not both constant (`se > 0`) the error of
    the standard error enters as `55u·W/se`:
    `17u·(Σ|a|/na + Σ|b|/nb) + (1 + 3u)·c·55u·W/se + 3u·c·se`. -/
theorem unpaired_interval_error_rel (hfl : ∀ x, |fl x - x| ≤ u * |x|) (hu : 0 ≤ u)
    (as bs : List ℝ) (hna : 2 ≤ as.length) (hnb : 2 ≤ bs.length)
    (hs : ((as.length : ℝ) + bs.length) * u ≤ 1 / 1024)
    (hnat : ∀ m : ℕ, m ≤ as.length + bs.length → fl m = m) (c : ℝ) (hc : 0 ≤ c)
    (conf : Confidence (RR fl)) (hp : probOk conf.quantile = true)
    (hAB : 0 < welchA as + welchA bs) :
    ∃ lo hi : ℝ,
      Unpaired.ci (constCrit c) conf (as.map (inj : ℝ → RR fl)) (bs.map inj) =
        intervalOfKind conf (⟨lo⟩ : RR fl) ⟨hi⟩ ∧
      |lo - ((smean as - smean bs) - c * Real.sqrt (welchA as + welchA bs))| ≤
        17 * u * (meanAbs as + meanAbs bs)
          + (1 + 3 * u) * (c * (55 * u * (sqTerm as + sqTerm bs)
              / Real.sqrt (welchA as + welchA bs)))
          + 3 * u * (c * Real.sqrt (welchA as + welchA bs)) ∧
      |hi - ((smean as - smean bs) + c * Real.sqrt (welchA as + welchA bs))| ≤
        17 * u * (meanAbs as + meanAbs bs)
          + (1 + 3 * u) * (c * (55 * u * (sqTerm as + sqTerm bs)
              / Real.sqrt (welchA as + welchA bs)))
          + 3 * u * (c * Real.sqrt (welchA as + welchA bs)) := by
  have hse : 0 < Real.sqrt (welchA as + welchA bs) := Real.sqrt_pos.mpr hAB
  have hrel : |seFl (ofLists fl as bs) - Real.sqrt (welchA as + welchA bs)| ≤
      55 * u * (sqTerm as + sqTerm bs) / Real.sqrt (welchA as + welchA bs) := by
    rw [le_div_iff₀ hse]
    exact (se_bound hfl hu as bs hna hnb hs hnat).2
  obtain ⟨b1, b2⟩ := unpaired_bounds_bound hfl hu as bs hna hnb hs hnat c hc hrel
  exact ⟨_, _, ci_ofLists as bs hna hnb hnat c conf hp, b1, b2⟩

/-! ### C. The effective degrees of freedom -/

/-- **What is requested, at every `fl` and for every oracle.** For any state with both counts
    `≥ 2`, `ci_mean` passes its guards with a mean difference `d`, a standard error `se` and
    degrees of freedom `dof`. The value handed on is the computed Welch value `dofFl U` (the
    model's `effectiveDof` on the computed `sa²/na`, `sb²/nb`) bounded below by the computed
    `fl (min (fl na) (fl nb) − 1)` (the crate's lower bound): `dofFl U ≤ dof`, with equality
    whenever the computed value reaches the bound. The request is Student's t at `dof` and the
    documented probability when `dof` is below the (rounded) population limit `fl 100000`, the
    normal quantile otherwise; for `dof > 0` the bounds are `fl (d ∓ fl (c·se))` with `c` the
    oracle's answer (an inadmissible probability panics inside `inverse_cdf`); for `dof ≤ 0` below
    the limit, `StudentsT::new(0, 1, dof).unwrap()` panics (this needs `fl (min (fl na) (fl nb) − 1)
    ≤ 0`, impossible for `u < 1/2`: `dof_fl_pos_always`). No hypothesis on `fl` is used. -/
theorem unpaired_request_fl (crit : Crit (RR fl)) (U : Unpaired (RR fl))
    (conf : Confidence (RR fl)) (ha : 2 ≤ U.a.count) (hb : 2 ≤ U.b.count) :
    ∃ d se dof : ℝ,
      (Unpaired.ciPrep U : Outcome (Err (RR fl)) (Arith.Prep (RR fl))) =
        .ok ⟨⟨d⟩, ⟨se⟩, ⟨dof⟩⟩ ∧
      dof = max (dofFl U) (fl (min (fl U.a.count) (fl U.b.count) - 1)) ∧
      dofFl U ≤ dof ∧
      (fl (min (fl U.a.count) (fl U.b.count) - 1) ≤ dofFl U → dof = dofFl U) ∧
      critReq conf (⟨dof⟩ : RR fl) =
        (if dof < fl 100000 then .t ⟨dof⟩ conf.quantile else .z conf.quantile) ∧
      (0 < dof → probOk conf.quantile = true →
        U.ciMean crit conf = intervalOfKind conf
          (⟨fl (d - fl ((crit (critReq conf (⟨dof⟩ : RR fl))).val * se))⟩ : RR fl)
          ⟨fl (d + fl ((crit (critReq conf (⟨dof⟩ : RR fl))).val * se))⟩) ∧
      (0 < dof → probOk conf.quantile = false → U.ciMean crit conf = .panic "inverse_cdf") ∧
      (dof ≤ 0 → dof < fl 100000 → U.ciMean crit conf = .panic "t_value") :=
  ⟨diffFl U, seFl U, dofClFl U, ciPrep_fl U ha hb, dofClFl_eq U, dofFl_le_dofClFl U,
    dofClFl_of_le U, critReq_fl conf _,
    fun hd hp => UnpairedRound.ciMean_fl crit U conf ha hb hd hp,
    fun hd hp => ciMean_fl_ppanic crit U conf ha hb hd hp,
    fun hd hl => ciMean_fl_tpanic crit U conf ha hb hd hl⟩

/-- **The degrees of freedom handed on are positive at every `fl` with `u < 1/2`**, for every
    state with counts `≥ 2` (constant samples included): the computed lower bound
    `fl (min (fl na) (fl nb) − 1)` is positive (`fl n > n/2 ≥ 1`), and `dof` is not below it;
    `t_value` does not panic. -/
theorem dof_fl_pos_always (hfl : ∀ x, |fl x - x| ≤ u * |x|) (hu : u < 1 / 2)
    (U : Unpaired (RR fl)) (hna : 2 ≤ U.a.count) (hnb : 2 ≤ U.b.count) :
    ∃ d se dof : ℝ,
      (Unpaired.ciPrep U : Outcome (Err (RR fl)) (Arith.Prep (RR fl))) =
        .ok ⟨⟨d⟩, ⟨se⟩, ⟨dof⟩⟩ ∧
      0 < fl (min (fl U.a.count) (fl U.b.count) - 1) ∧
      fl (min (fl U.a.count) (fl U.b.count) - 1) ≤ dof ∧ 0 < dof :=
  ⟨_, _, _, ciPrep_fl U hna hnb, clampFl_pos hfl hu U hna hnb, clampFl_le_dofClFl U,
    (clampFl_pos hfl hu U hna hnb).trans_le (clampFl_le_dofClFl U)⟩

/-- **At least `min(na, nb) − 1 ≥ 1`** when `fl` is exact on the two counts and on
    `min(na, nb) − 1` (natural numbers; no hypothesis on the error of `fl`): the value handed on
    is `max (dofFl U) (min(na, nb) − 1)`, for every state with counts `≥ 2`, whatever the computed
    Welch value (C04 `unpaired_dof_clamped` is the case `fl = id`). -/
theorem dof_fl_clamped (U : Unpaired (RR fl)) (hna : 2 ≤ U.a.count) (hnb : 2 ≤ U.b.count)
    (ha : fl U.a.count = U.a.count) (hb : fl U.b.count = U.b.count)
    (hm : fl (min (U.a.count : ℝ) U.b.count - 1) = min (U.a.count : ℝ) U.b.count - 1) :
    ∃ d se dof : ℝ,
      (Unpaired.ciPrep U : Outcome (Err (RR fl)) (Arith.Prep (RR fl))) =
        .ok ⟨⟨d⟩, ⟨se⟩, ⟨dof⟩⟩ ∧
      dof = max (dofFl U) (min (U.a.count : ℝ) U.b.count - 1) ∧
      min (U.a.count : ℝ) U.b.count - 1 ≤ dof ∧ 1 ≤ dof :=
  ⟨_, _, _, ciPrep_fl U hna hnb, dofClFl_exact U hna hnb ha hb hm⟩

/-- **The lower bound is 1-Lipschitz.** For every state with counts `≥ 2`, every `fl` and every
    reference pair `A`, `B`: the value handed on differs from the exact bounded value
    `clampedDof A B na nb = max (welchDof A B na nb) (min(na, nb) − 1)` by at most the larger of
    the error of the computed Welch value and the error of the computed lower bound. -/
theorem dof_clamp_lipschitz (U : Unpaired (RR fl)) (hna : 2 ≤ U.a.count) (hnb : 2 ≤ U.b.count)
    (A B : ℝ) :
    ∃ d se dof : ℝ,
      (Unpaired.ciPrep U : Outcome (Err (RR fl)) (Arith.Prep (RR fl))) =
        .ok ⟨⟨d⟩, ⟨se⟩, ⟨dof⟩⟩ ∧
      |dof - clampedDof A B U.a.count U.b.count| ≤
        max |dofFl U - welchDof A B U.a.count U.b.count|
          |fl (min (fl U.a.count) (fl U.b.count) - 1) - (min (U.a.count : ℝ) U.b.count - 1)| :=
  ⟨_, _, _, ciPrep_fl U hna hnb, dofClFl_sub_clampedDof_le U A B⟩

/-- **The computed Welch value is positive** for every state (built by any sequence of
    appends and merges) with counts `≥ 2` that are exactly representable together with their
    successors, unless both computed standard deviations are zero; the value handed on is not
    below it. (The exact quotient on the computed terms is `≥ 3`; the roundings inside the quotient
    keep it above `3·e^{−14u}`, and the two subtractions leave more than `1 − 57u`:
    `UnpairedRound.dof_finish` at `ε = 0`.) -/
theorem dof_fl_pos (hfl : ∀ x, |fl x - x| ≤ u * |x|) (hu : 0 ≤ u) (hu' : u ≤ 1 / 2048)
    (U : Unpaired (RR fl)) (hna : 2 ≤ U.a.count) (hnb : 2 ≤ U.b.count)
    (ha : fl U.a.count = U.a.count) (hb : fl U.b.count = U.b.count)
    (ha1 : fl ((U.a.count : ℝ) + 1) = (U.a.count : ℝ) + 1)
    (hb1 : fl ((U.b.count : ℝ) + 1) = (U.b.count : ℝ) + 1)
    (hsd : 0 < U.a.stdDev.val ∨ 0 < U.b.stdDev.val) :
    ∃ d se dof : ℝ,
      (Unpaired.ciPrep U : Outcome (Err (RR fl)) (Arith.Prep (RR fl))) =
        .ok ⟨⟨d⟩, ⟨se⟩, ⟨dof⟩⟩ ∧ 0 < dofFl U ∧ dofFl U ≤ dof ∧ 0 < dof := by
  have hu1 : u < 1 := hu'.trans_lt (by norm_num)
  have hc : ExactCounts U := ⟨hna, hnb, ha, hb, ha1, hb1⟩
  obtain ⟨hA, hB⟩ := hc.s2nFl_nonneg hfl hu1.le
  have hpos : 0 < s2nFl U.a + s2nFl U.b := by
    rcases hsd with h | h
    · exact add_pos_of_pos_of_nonneg (s2nFl_pos hfl hu1 U.a ha (by omega) h) hB
    · exact add_pos_of_nonneg_of_pos hA (s2nFl_pos hfl hu1 U.b hb (by omega) h)
  have hd := dofFl_pos hfl hu hu' hc hpos
  exact ⟨_, _, _, ciPrep_fl U hna hnb, hd, dofFl_le_dofClFl U, hd.trans_le (dofFl_le_dofClFl U)⟩

/-- **Both computed standard deviations zero, at every `fl`** with `u < 1`. The computed Welch
    value is `fl (fl (0/0 − 1) − 1) < 0` with the real `0/0 = 0`, so the value handed on is the
    computed lower bound `m = fl (min (fl na) (fl nb) − 1)` as soon as `m ≥ 0`; the computed
    standard error is `0`. For `m > 0` (every `fl` with `u < 1/2`: `unpaired_both_zero_no_panic`)
    `t_value` does not panic: with an admissible probability the result is the degenerate
    interval whose bounds are both `fl (d̂ ∓ fl (c·0)) = fl (fl (m̂a − m̂b))`, whatever the oracle
    answers; an inadmissible probability panics inside `inverse_cdf`. Only for `m ≤ 0` (below
    the population limit) does `t_value` still panic. (C04 `unpaired_both_constant` is the case
    `fl = id`, where `m = min(na, nb) − 1 ≥ 1`; in IEEE arithmetic `0/0` is NaN, passes through
    the bound, and the code takes the `z` branch — outside the `RR` interpretation, which does
    not model NaN.) -/
theorem unpaired_both_zero_fl (hfl : ∀ x, |fl x - x| ≤ u * |x|) (hu1 : u < 1)
    (crit : Crit (RR fl)) (U : Unpaired (RR fl)) (conf : Confidence (RR fl))
    (hna : 2 ≤ U.a.count) (hnb : 2 ≤ U.b.count)
    (ha : U.a.stdDev.val = 0) (hb : U.b.stdDev.val = 0) :
    dofFl U = fl (fl (-1) - 1) ∧ dofFl U < 0 ∧
    (Unpaired.ciPrep U : Outcome (Err (RR fl)) (Arith.Prep (RR fl))) =
      .ok ⟨⟨fl (U.a.mean.val - U.b.mean.val)⟩, ⟨0⟩,
        ⟨max (dofFl U) (fl (min (fl U.a.count) (fl U.b.count) - 1))⟩⟩ ∧
    (0 ≤ fl (min (fl U.a.count) (fl U.b.count) - 1) →
      max (dofFl U) (fl (min (fl U.a.count) (fl U.b.count) - 1)) =
        fl (min (fl U.a.count) (fl U.b.count) - 1)) ∧
    (0 < fl (min (fl U.a.count) (fl U.b.count) - 1) → probOk conf.quantile = true →
      U.ciMean crit conf = intervalOfKind conf
        (⟨fl (fl (U.a.mean.val - U.b.mean.val))⟩ : RR fl)
        ⟨fl (fl (U.a.mean.val - U.b.mean.val))⟩) ∧
    (0 < fl (min (fl U.a.count) (fl U.b.count) - 1) → probOk conf.quantile = false →
      U.ciMean crit conf = .panic "inverse_cdf") ∧
    (fl (min (fl U.a.count) (fl U.b.count) - 1) ≤ 0 → 0 < fl 100000 →
      U.ciMean crit conf = .panic "t_value") := by
  obtain ⟨he, hneg⟩ := dofFl_both_zero hfl hu1 U ha hb
  have hse := seFl_both_zero hfl U ha hb
  refine ⟨he, hneg, ?_, ?_, ?_, ?_, ?_⟩
  · rw [ciPrep_fl U hna hnb, hse, dofClFl_eq]
    rfl
  · intro hm
    exact max_eq_right (le_trans hneg.le hm)
  · intro hm hp
    have hd : 0 < dofClFl U := lt_of_lt_of_le hm (clampFl_le_dofClFl U)
    rw [UnpairedRound.ciMean_fl crit U conf hna hnb hd hp, hse, mul_zero, Rounding.fl_zero hfl, sub_zero, add_zero]
    rfl
  · intro hm hp
    exact ciMean_fl_ppanic crit U conf hna hnb (lt_of_lt_of_le hm (clampFl_le_dofClFl U)) hp
  · intro hm hlim
    have hd : dofClFl U ≤ 0 := by
      rw [dofClFl_eq]; exact max_le hneg.le hm
    exact ciMean_fl_tpanic crit U conf hna hnb hd (lt_of_le_of_lt hd hlim)

/-- **Two constant samples do not panic** at any `fl` with `u < 1/2`: both computed standard
    deviations zero, counts `≥ 2`, an admissible probability — `ci_mean` returns the degenerate
    interval at `fl (fl (m̂a − m̂b))` (the mean difference rounded by the subtraction and once
    more by `d̂ ∓ 0`), for every oracle. -/
theorem unpaired_both_zero_no_panic (hfl : ∀ x, |fl x - x| ≤ u * |x|) (hu : u < 1 / 2)
    (crit : Crit (RR fl)) (U : Unpaired (RR fl)) (conf : Confidence (RR fl))
    (hna : 2 ≤ U.a.count) (hnb : 2 ≤ U.b.count)
    (ha : U.a.stdDev.val = 0) (hb : U.b.stdDev.val = 0) (hp : probOk conf.quantile = true) :
    U.ciMean crit conf = intervalOfKind conf
      (⟨fl (fl (U.a.mean.val - U.b.mean.val))⟩ : RR fl)
      ⟨fl (fl (U.a.mean.val - U.b.mean.val))⟩ :=
  (unpaired_both_zero_fl hfl (hu.trans (by norm_num)) crit U conf hna hnb ha hb).2.2.2.2.1
    (clampFl_pos hfl hu U hna hnb) hp

/-- **Two real samples: at least `min(na, nb) − 1 ≥ 1`**, whatever the samples (constant or
    not) and whatever the error of `fl` off the natural numbers `≤ na + nb`: the value handed on
    is `max (dofFl) (min(na, nb) − 1)`. -/
theorem dof_fl_clamped_samples (as bs : List ℝ) (hna : 2 ≤ as.length) (hnb : 2 ≤ bs.length)
    (hnat : ∀ m : ℕ, m ≤ as.length + bs.length → fl m = m) :
    ∃ d se dof : ℝ,
      (Unpaired.ciPrep (Unpaired.fromLists (as.map inj) (bs.map inj) : Unpaired (RR fl)) :
        Outcome (Err (RR fl)) (Arith.Prep (RR fl))) = .ok ⟨⟨d⟩, ⟨se⟩, ⟨dof⟩⟩ ∧
      dof = max (dofFl (ofLists fl as bs)) (min (as.length : ℝ) bs.length - 1) ∧
      min (as.length : ℝ) bs.length - 1 ≤ dof ∧ 1 ≤ dof :=
  ⟨_, _, _, ciPrep_ofLists fl as bs hna hnb, dofClFl_lists as bs hna hnb hnat⟩

/-- **The computed Welch value is positive for two real samples** whose exact
    `sa²/na + sb²/nb` exceeds the error bound `53u·W` of its computed value (the value handed on
    is not below it, and `≥ 1` in any case: `dof_fl_clamped_samples`). -/
theorem dof_fl_pos_samples (hfl : ∀ x, |fl x - x| ≤ u * |x|) (hu : 0 ≤ u) (as bs : List ℝ)
    (hna : 2 ≤ as.length) (hnb : 2 ≤ bs.length)
    (hs : ((as.length : ℝ) + bs.length) * u ≤ 1 / 1024)
    (hnat : ∀ m : ℕ, m ≤ as.length + bs.length → fl m = m)
    (hpos : 53 * u * (sqTerm as + sqTerm bs) < welchA as + welchA bs) :
    ∃ d se dof : ℝ,
      (Unpaired.ciPrep (Unpaired.fromLists (as.map inj) (bs.map inj) : Unpaired (RR fl)) :
        Outcome (Err (RR fl)) (Arith.Prep (RR fl))) = .ok ⟨⟨d⟩, ⟨se⟩, ⟨dof⟩⟩ ∧
      0 < dofFl (ofLists fl as bs) ∧ dofFl (ofLists fl as bs) ≤ dof ∧ 0 < dof := by
  obtain ⟨hu', -⟩ := split_hyps hu as bs hna hs hnat
  have hc := count_hyps (fl := fl) as bs hna hnb hnat
  have h1 := (sumS2n_bound hfl hu as bs hna hnb hs hnat).1
  have hS : 0 < sumS2nFl (ofLists fl as bs) := by linear_combination (abs_le.mp h1).1 + hpos
  -- the rounded sum of the two computed terms is positive, so they are not both zero
  obtain ⟨hA, hB⟩ := hc.s2nFl_nonneg hfl (hu'.trans (by norm_num))
  have hAB : 0 < s2nFl (ofLists fl as bs).a + s2nFl (ofLists fl as bs).b :=
    (add_nonneg hA hB).lt_of_ne' fun h0 => by
      rw [sumS2nFl, h0, Rounding.fl_zero hfl] at hS
      exact lt_irrefl _ hS
  have hd := dofFl_pos hfl hu hu' hc hAB
  exact ⟨_, _, _, ciPrep_ofLists fl as bs hna hnb, hd, dofFl_le_dofClFl _,
    hd.trans_le (dofFl_le_dofClFl _)⟩

/-- **Error of the value handed on against the exact bounded value, two real samples.** With
    `fl` exact on the natural numbers `≤ na + nb` the computed lower bound is the exact
    `min(na, nb) − 1`, and since `max` is 1-Lipschitz the value handed on is at least as close to
    `clampedDof = max ν (min(na, nb) − 1)` (what the model hands on at exact arithmetic, C04) as
    the computed Welch value `dofFl` is to `ν`; when not both samples are constant,
    `clampedDof = ν`. No hypothesis on the error of `fl` elsewhere. -/
theorem dof_error_clamped (as bs : List ℝ) (hna : 2 ≤ as.length) (hnb : 2 ≤ bs.length)
    (hnat : ∀ m : ℕ, m ≤ as.length + bs.length → fl m = m) :
    ∃ d se dof : ℝ,
      (Unpaired.ciPrep (Unpaired.fromLists (as.map inj) (bs.map inj) : Unpaired (RR fl)) :
        Outcome (Err (RR fl)) (Arith.Prep (RR fl))) = .ok ⟨⟨d⟩, ⟨se⟩, ⟨dof⟩⟩ ∧
      |dof - clampedDof (welchA as) (welchA bs) as.length bs.length| ≤
        |dofFl (ofLists fl as bs) - welchNu as bs| ∧
      (0 < welchA as + welchA bs →
        clampedDof (welchA as) (welchA bs) as.length bs.length = welchNu as bs ∧
        |dof - welchNu as bs| ≤ |dofFl (ofLists fl as bs) - welchNu as bs|) :=
  ⟨_, _, _, ciPrep_ofLists fl as bs hna hnb, dofClFl_error_lists as bs hna hnb hnat,
    fun hAB => ⟨clampedDof_lists as bs hna hnb hAB,
      dofClFl_error_lists_nu as bs hna hnb hnat hAB⟩⟩

/-- **Error of the computed degrees of freedom.** Both sample variances positive, `κ` a bound
    on the conditioning `Σx²/((n − 1)·s²)` of both samples with `51·u·κ ≤ 1/64`: the computed
    Welch value `dofFl` satisfies `|dofFl − ν| ≤ (255·κ + 19)·u·(ν + 2)` and `dofFl > 0`; the
    degrees of freedom `dof = max dofFl (min(na, nb) − 1)` handed to `interval_bounds` at `RR fl`
    satisfy the same bound `|dof − ν| ≤ (255·κ + 19)·u·(ν + 2)` (the exact `ν ≥ min(na, nb) − 1`
    and `max` is 1-Lipschitz) and `dof ≥ 1`.
    (Each computed `s²/n` has relative error `ε = 51uκ`; the quotient `(A+B)²/(A²/(na+1) +
    B²/(nb+1))` is homogeneous of degree `0` with non-negative terms, so relative errors pass
    through with factor `4`, plus the roundings of the quotient and the two subtractions:
    `(5ε + 19u)·(ν + 2)`, `UnpairedRound.dofFl_error`.)  Not covered: one of the two exact
    variances zero — then the computed term has no relative accuracy; `dof_error_abs` below covers
    that case. -/
theorem dof_error (hfl : ∀ x, |fl x - x| ≤ u * |x|) (hu : 0 ≤ u) (as bs : List ℝ)
    (hna : 2 ≤ as.length) (hnb : 2 ≤ bs.length)
    (hs : ((as.length : ℝ) + bs.length) * u ≤ 1 / 1024)
    (hnat : ∀ m : ℕ, m ≤ as.length + bs.length → fl m = m)
    (hva : 0 < svar as) (hvb : 0 < svar bs) (κ : ℝ)
    (hκa : (as.map (fun x => x * x)).sum / ((as.length : ℝ) - 1) ≤ κ * svar as)
    (hκb : (bs.map (fun x => x * x)).sum / ((bs.length : ℝ) - 1) ≤ κ * svar bs)
    (hκ : 51 * u * κ ≤ 1 / 64) :
    ∃ d se dof : ℝ,
      (Unpaired.ciPrep (Unpaired.fromLists (as.map inj) (bs.map inj) : Unpaired (RR fl)) :
        Outcome (Err (RR fl)) (Arith.Prep (RR fl))) = .ok ⟨⟨d⟩, ⟨se⟩, ⟨dof⟩⟩ ∧
      dof = max (dofFl (ofLists fl as bs)) (min (as.length : ℝ) bs.length - 1) ∧
      |dofFl (ofLists fl as bs) - welchNu as bs| ≤ (255 * κ + 19) * u * (welchNu as bs + 2) ∧
      0 < dofFl (ofLists fl as bs) ∧
      |dof - welchNu as bs| ≤ (255 * κ + 19) * u * (welchNu as bs + 2) ∧
      1 ≤ dof := by
  obtain ⟨hu', hsa, hsb, hnata, hnatb⟩ := split_hyps hu as bs hna hs hnat
  have hκ0 : 0 ≤ κ := nonneg_of_mul_nonneg_left
    ((sumSq_div_nonneg as hna).trans hκa) hva
  have hε0 : 0 ≤ 51 * u * κ := mul_nonneg (mul_nonneg (by norm_num) hu) hκ0
  have hεa := s2n_rel hfl hu as hna hsa hnata (κ := κ) hκa
  have hεb := s2n_rel hfl hu bs hnb hsb hnatb (κ := κ) hκb
  have hA := welchA_pos as (by omega) hva
  have hB := welchA_pos bs (by omega) hvb
  obtain ⟨h1, h2⟩ := dofFl_error_rel hfl hu hu' (count_hyps as bs hna hnb hnat) hε0 hκ hA hB
    hεa hεb
  rw [ofLists_a_count, ofLists_b_count] at h1
  change |dofFl (ofLists fl as bs) - welchNu as bs| ≤ _ * (welchNu as bs + 2) at h1
  have e : (255 * κ + 19) * u = 5 * (51 * u * κ) + 19 * u := by ring
  rw [← e] at h1
  obtain ⟨c1, _, c3⟩ := dofClFl_lists (fl := fl) as bs hna hnb hnat
  exact ⟨_, _, _, ciPrep_ofLists fl as bs hna hnb, c1, h1, h2,
    le_trans (dofClFl_error_lists_nu as bs hna hnb hnat (add_pos hA hB)) h1, c3⟩

/-- **Error of the computed degrees of freedom, absolute form** (one of the two exact variances
    may be zero). With `η ≥ 51u·W/(sa²/na + sb²/nb)` — the error bound of the two computed variance
    terms relative to their exact sum —, `r = (na + nb + 2)/(min(na, nb) + 1)` and
    `ρ = r·(2η + η²) ≤ 1/64`:  `|dofFl − ν| ≤ ((5/4)·(2η + ρ) + 19u)·(ν + 2)` and `dofFl > 0` for
    the computed Welch value, and the same bound and `dof ≥ 1` for the value
    `dof = max dofFl (min(na, nb) − 1)` handed on.
    (The numerator `(A+B)²` moves by the factor `(1 ± η)²`; the denominator `A²/(na+1) + B²/(nb+1)`
    is at least `(A+B)²/(na+nb+2)`, so its relative error is at most `ρ`: unbalanced sizes
    amplify, and this is real — a perturbation `η·B` of a vanishing `A` changes the denominator
    by the factor `1 + η²(nb+1)/(na+1)`.) -/
theorem dof_error_abs (hfl : ∀ x, |fl x - x| ≤ u * |x|) (hu : 0 ≤ u) (as bs : List ℝ)
    (hna : 2 ≤ as.length) (hnb : 2 ≤ bs.length)
    (hs : ((as.length : ℝ) + bs.length) * u ≤ 1 / 1024)
    (hnat : ∀ m : ℕ, m ≤ as.length + bs.length → fl m = m) (η : ℝ) (hη0 : 0 ≤ η)
    (hAB : 0 < welchA as + welchA bs)
    (hη : 51 * u * (sqTerm as + sqTerm bs) ≤ η * (welchA as + welchA bs))
    (hρ : ((as.length : ℝ) + bs.length + 2) / (min (as.length : ℝ) bs.length + 1)
      * (2 * η + η ^ 2) ≤ 1 / 64) :
    ∃ d se dof : ℝ,
      (Unpaired.ciPrep (Unpaired.fromLists (as.map inj) (bs.map inj) : Unpaired (RR fl)) :
        Outcome (Err (RR fl)) (Arith.Prep (RR fl))) = .ok ⟨⟨d⟩, ⟨se⟩, ⟨dof⟩⟩ ∧
      dof = max (dofFl (ofLists fl as bs)) (min (as.length : ℝ) bs.length - 1) ∧
      |dofFl (ofLists fl as bs) - welchNu as bs| ≤
        (5 / 4 * (2 * η + ((as.length : ℝ) + bs.length + 2) / (min (as.length : ℝ) bs.length + 1)
          * (2 * η + η ^ 2)) + 19 * u) * (welchNu as bs + 2) ∧
      0 < dofFl (ofLists fl as bs) ∧
      |dof - welchNu as bs| ≤
        (5 / 4 * (2 * η + ((as.length : ℝ) + bs.length + 2) / (min (as.length : ℝ) bs.length + 1)
          * (2 * η + η ^ 2)) + 19 * u) * (welchNu as bs + 2) ∧
      1 ≤ dof := by
  obtain ⟨hu', hsa, hsb, hnata, hnatb⟩ := split_hyps hu as bs hna hs hnat
  have a1 := (s2n_bound hfl hu as hna hsa hnata).1
  have b1 := (s2n_bound hfl hu bs hnb hsb hnatb).1
  obtain ⟨h1, h2⟩ := dofFl_error_abs hfl hu hu' (count_hyps as bs hna hnb hnat) hη0
    (welchA_nonneg as (by omega)) (welchA_nonneg bs (by omega)) hAB
    (by rw [ofLists_a, ofLists_b]; linear_combination hη + a1 + b1)
    (by rw [ofLists_a_count, ofLists_b_count]; exact hρ)
  rw [ofLists_a_count, ofLists_b_count] at h1
  obtain ⟨c1, _, c3⟩ := dofClFl_lists (fl := fl) as bs hna hnb hnat
  exact ⟨_, _, _, ciPrep_ofLists fl as bs hna hnb, c1, h1, h2,
    le_trans (dofClFl_error_lists_nu as bs hna hnb hnat hAB) h1, c3⟩

/-- **Exact degrees of freedom, upper bound**: `ν ≤ na + nb` for all samples (Cauchy–Schwarz;
    `ν + 2 ≤ (na + 1) + (nb + 1)`), so the factor `ν + 2` in `dof_error` is at most `na + nb + 2`.
    The lower bound `ν ≥ min(na, nb) − 1 ≥ 1` for samples not both constant is C04
    `dof_pos_samples`. -/
theorem dof_exact_le (as bs : List ℝ) : welchNu as bs ≤ (as.length : ℝ) + bs.length :=
  welchDof_le _ _ _ _ (Nat.cast_nonneg _) (Nat.cast_nonneg _)

/-! ### non-vacuity -/

/-- paired: two samples of equal length `≥ 2`, exact arithmetic -/
example : (∀ x : ℝ, |id x - x| ≤ 0 * |x|) ∧ (0 : ℝ) ≤ 0 ∧
    [(1 : ℝ), 2, 4].length = [(3 : ℝ), 5, 2].length ∧ 2 ≤ [(1 : ℝ), 2, 4].length ∧
    (([(1 : ℝ), 2, 4].length : ℕ) : ℝ) * 0 ≤ 1 / 1024 ∧
    (∀ m : ℕ, m ≤ [(1 : ℝ), 2, 4].length → id (m : ℝ) = m) := by
  refine ⟨by intro x; simp, le_refl _, by simp, by simp, by norm_num, by intro m _; rfl⟩

/-- the differences of these samples are `-2, -3, 2`: not constant (hypothesis of the `κ`-form) -/
example : 0 < svar (flDiffs id [1, 2, 4] [3, 5, 2]) := by
  simp [flDiffs, diffs, svar, sdev2, smean]
  norm_num

/-- unpaired: sizes `3` and `4`, exact arithmetic; the variance terms are positive (so is their
    sum, hypothesis `hpos` with `u = 0`), and `κ = 5` bounds the conditioning of both samples -/
example : (∀ x : ℝ, |id x - x| ≤ 0 * |x|) ∧ 2 ≤ [(1 : ℝ), 2, 4].length ∧
    2 ≤ [(3 : ℝ), 5, 9, 2].length ∧
    ((([(1 : ℝ), 2, 4].length : ℕ) : ℝ) + (([(3 : ℝ), 5, 9, 2].length : ℕ) : ℝ)) * 0 ≤ 1 / 1024 ∧
    (∀ m : ℕ, m ≤ [(1 : ℝ), 2, 4].length + [(3 : ℝ), 5, 9, 2].length → id (m : ℝ) = m) ∧
    53 * 0 * (sqTerm [1, 2, 4] + sqTerm [3, 5, 9, 2]) < welchA [1, 2, 4] + welchA [3, 5, 9, 2] ∧
    0 < svar [1, 2, 4] ∧ 0 < svar [3, 5, 9, 2] ∧
    (([(1 : ℝ), 2, 4]).map (fun x => x * x)).sum / ((([(1 : ℝ), 2, 4].length : ℕ) : ℝ) - 1) ≤
      5 * svar [1, 2, 4] ∧
    (([(3 : ℝ), 5, 9, 2]).map (fun x => x * x)).sum /
      ((([(3 : ℝ), 5, 9, 2].length : ℕ) : ℝ) - 1) ≤ 5 * svar [3, 5, 9, 2] ∧
    51 * (0 : ℝ) * 5 ≤ 1 / 64 := by
  have h1 := svar_one_two_four
  have h2 : svar [3, 5, 9, 2] = 115 / 12 := by
    simp [svar, sdev2, smean]; norm_num
  refine ⟨by intro x; simp, by simp, by simp, by norm_num, by intro m _; rfl, ?_, ?_, ?_, ?_, ?_,
    by norm_num⟩
  · simp only [welchA, h1, h2]
    norm_num
  · rw [h1]; norm_num
  · rw [h2]; norm_num
  · rw [h1]; simp; norm_num
  · rw [h2]; simp; norm_num

/-- the hypotheses on `(fl, u)` of part B/C are met by a rounding function that is not the
    identity: `fl x = x` on the natural numbers, `fl x = x·(1 + 2⁻²⁰)` elsewhere, `u = 2⁻²⁰`,
    sizes `3` and `4`, `κ = 5` -/
example : ∃ (fl : ℝ → ℝ) (u : ℝ) (as bs : List ℝ), (∀ x, |fl x - x| ≤ u * |x|) ∧ 0 ≤ u ∧
    2 ≤ as.length ∧ 2 ≤ bs.length ∧ ((as.length : ℝ) + bs.length) * u ≤ 1 / 1024 ∧
    (∀ m : ℕ, m ≤ as.length + bs.length → fl m = m) ∧ 51 * u * 5 ≤ 1 / 64 ∧
    fl (1 / 2) ≠ 1 / 2 :=
  ⟨Rounding.flNat (1 / 1048576), 1 / 1048576, [1 / 2, 2, 4], [3, 5, 9, 2],
    Rounding.flNat_err (by norm_num), by norm_num, by simp, by simp, by norm_num,
    fun m _ => Rounding.flNat_nat _ m, by norm_num, Rounding.flNat_half (by norm_num)⟩

/-- `dof_error_abs`: one constant sample is allowed; exact arithmetic, `η = 0` -/
example : 0 < welchA [1, 2, 4] + welchA [3, 3] ∧ svar [3, 3] = 0 ∧
    51 * 0 * (sqTerm [1, 2, 4] + sqTerm [3, 3]) ≤ 0 * (welchA [1, 2, 4] + welchA [3, 3]) ∧
    ((([(1 : ℝ), 2, 4].length : ℕ) : ℝ) + (([(3 : ℝ), 3].length : ℕ) : ℝ) + 2) /
      (min ((([(1 : ℝ), 2, 4].length : ℕ) : ℝ)) ((([(3 : ℝ), 3].length : ℕ) : ℝ)) + 1)
        * (2 * 0 + (0 : ℝ) ^ 2) ≤ 1 / 64 := by
  have h1 := svar_one_two_four
  have h2 : svar [3, 3] = 0 := svar_pair_self 3
  refine ⟨?_, h2, by norm_num, by norm_num⟩
  simp only [welchA, h1, h2]
  norm_num

/-- the probability hypothesis holds for a one-sided confidence at every `fl` -/
example (fl : ℝ → ℝ) : probOk (Confidence.upper (⟨0.95⟩ : RR fl)).quantile = true :=
  (RR.probOk_iff _).mpr (show (0 : ℝ) ≤ 0.95 ∧ (0.95 : ℝ) ≤ 1 by norm_num)

/-- `dof_fl_pos`: a state at exact arithmetic with counts `3`, `2`, the first computed standard
    deviation positive; `unpaired_both_zero_fl`: two constant samples of sizes `2`, `2` — the
    computed lower bound `fl (min (fl 2) (fl 2) − 1) = 1` is positive (the non-panic branch) -/
example : 0 < (Arith.fromList (([1, 2, 4] : List ℝ).map inj) : Arith Rex).stdDev.val ∧
    (Arith.fromList (([3, 3] : List ℝ).map inj) : Arith Rex).stdDev.val = 0 ∧
    (Arith.fromList (([5, 5] : List ℝ).map inj) : Arith Rex).stdDev.val = 0 ∧
    (0 : ℝ) < id (min (id (((Arith.fromList (([3, 3] : List ℝ).map inj) : Arith Rex).count : ℕ) : ℝ))
      (id (((Arith.fromList (([5, 5] : List ℝ).map inj) : Arith Rex).count : ℕ) : ℝ)) - 1) ∧
    (0 : ℝ) < id 100000 := by
  have h1 : 0 < svar [1, 2, 4] := by rw [svar_one_two_four]; norm_num
  have h2 : svar [3, 3] = 0 := svar_pair_self 3
  have h3 : svar [5, 5] = 0 := svar_pair_self 5
  refine ⟨?_, ?_, ?_, ?_, by norm_num⟩
  · rw [Arith.fromList_stdDev _ (by simp)]
    exact Real.sqrt_pos.mpr h1
  · rw [Arith.fromList_stdDev _ (by simp), ssd, h2, Real.sqrt_zero]
  · rw [Arith.fromList_stdDev _ (by simp), ssd, h3, Real.sqrt_zero]
  · simp [Arith.fromList_count]

/-- `dof_fl_clamped`: exactness on the counts and on `min(na, nb) − 1` holds at `fl = id`;
    `dof_fl_pos_always`, `unpaired_both_zero_no_panic`: `u = 2⁻²⁰ < 1/2` (the rounding function
    of the example above) -/
example : id ((3 : ℕ) : ℝ) = ((3 : ℕ) : ℝ) ∧
    id (min ((3 : ℕ) : ℝ) ((2 : ℕ) : ℝ) - 1) = min ((3 : ℕ) : ℝ) ((2 : ℕ) : ℝ) - 1 ∧
    (1 / 1048576 : ℝ) < 1 / 2 := ⟨rfl, rfl, by norm_num⟩

/-- the clamp is active in the both-constant case and inactive otherwise, at exact arithmetic:
    `clampedDof 0 0 2 2 = 1` while `welchDof 0 0 2 2 = −2` -/
example : clampedDof 0 0 2 2 = 1 ∧ welchDof 0 0 2 2 = -2 := by
  refine ⟨?_, welchDof_zero 2 2⟩
  rw [clampedDof_zero 2 2 (le_refl _) (le_refl _)]
  norm_num

end StatsCI.C04R
