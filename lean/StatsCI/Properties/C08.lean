/-
  C08 — Compensated summation error is O(u·Σ|x|), independent of the number of terms.

  All theorems are about the model's `Kahan` register (`Kahan.add`, `Kahan.addList`,
  `Kahan.merge`, `Kahan.value`) and `Prog.evalK` / `Prog.evalA`, instantiated at the carrier
  `RR fl`: ℝ with an arbitrary rounding function `fl` applied after every operation, of which
  only `∀ x, |fl x − x| ≤ u·|x|` with `0 ≤ u ≤ 1/64` is assumed.

  The invariant `G u S T E s c` (`StatsCI.KahanLemmas.G`) says: the register `(s, c)` tracks
  the target `S` through `s − c`, with magnitude budget `T` and error allowance `E`:
  `|S| ≤ T ∧ |c| ≤ 3uT ∧ |s − c − S| ≤ E ∧ E ≤ T/4`.
-/
import StatsCI.Lemmas.Kahan
import StatsCI.Lemmas.KahanProg

namespace StatsCI.C08
open StatsCI KahanLemmas

variable {fl : ℝ → ℝ} {u : ℝ}

/-- the hypotheses on `(fl, u)` used throughout are satisfiable by a rounding function that is
    not the identity (`fl x = x·(1 + 1/128)`, `u = 1/128`) -/
example : ∃ (fl : ℝ → ℝ) (u : ℝ), 0 ≤ u ∧ u ≤ 1 / 64 ∧ (∀ x, |fl x - x| ≤ u * |x|) ∧ fl 1 ≠ 1 := by
  refine ⟨fun x => x * (1 + 1 / 128), 1 / 128, by norm_num, by norm_num, ?_, by norm_num⟩
  intro x
  have : x * (1 + 1 / 128) - x = 1 / 128 * x := by ring
  rw [this, abs_mul]
  norm_num

/-! ### 1. One-step drift -/

/-- **Drift identity.** One `Kahan.add` step of the model at `RR fl`, for *any* `fl`: with
    `a = x − c`, `y = fl a`, `t = fl (s + y)`, `d = fl (t − s)`, `c' = fl (d − y)` the new register
    is `(t, c')` and
    `(t − c') − ((s − c) + x) = (y − a) − (c' − (d − y)) − (d − (t − s))`.
    The rounding error `t − (s + y)` of the main addition does not appear. -/
theorem drift_identity (k : Kahan (RR fl)) (x : RR fl) :
    let s := k.sum.val
    let c := k.comp.val
    let a := x.val - c
    let y := fl a
    let t := fl (s + y)
    let d := fl (t - s)
    let c' := fl (d - y)
    (k.add x).sum.val = t ∧ (k.add x).comp.val = c' ∧
    ((k.add x).sum.val - (k.add x).comp.val) - ((s - c) + x.val)
      = (y - a) - (c' - (d - y)) - (d - (t - s)) := by
  intro s c a y t d c'
  refine ⟨rfl, rfl, ?_⟩
  rw [add_sum_val, add_comp_val]
  simp only [s, c, a, y, t, d, c']
  ring

/-- consequence: the tracked quantity `sum − comp` drifts by at most three *small* roundings -/
theorem drift_bound (hfl : ∀ x, |fl x - x| ≤ u * |x|) (k : Kahan (RR fl)) (x : RR fl) :
    |((k.add x).sum.val - (k.add x).comp.val) - ((k.sum.val - k.comp.val) + x.val)| ≤
      u * |x.val - k.comp.val|
        + (u * |fl (k.sum.val + fl (x.val - k.comp.val)) - k.sum.val|
          + u * |fl (fl (k.sum.val + fl (x.val - k.comp.val)) - k.sum.val)
                  - fl (x.val - k.comp.val)|) :=
  step_drift hfl k x

/-! ### 2. The invariant is preserved by a model step; re-targeting -/

/-- **Invariant step.** If the register `k` satisfies `G u S T E`, then `k.add x` satisfies `G`
    with `S, T, E` advanced by `x`, `|x|`, `2u|x| + 9u²(T + |x|)`; the side condition for the next
    step (`E' ≤ T'/4`) is supplied by the caller. -/
theorem inv_step (hu : 0 ≤ u) (hu' : u ≤ 1 / 64) (hfl : ∀ x, |fl x - x| ≤ u * |x|)
    (S T E : ℝ) (k : Kahan (RR fl)) (x : RR fl) (h : G u S T E k.sum.val k.comp.val)
    (hnext : E + 2 * u * |x.val| + 9 * u ^ 2 * (T + |x.val|) ≤ (T + |x.val|) / 4) :
    G u (S + x.val) (T + |x.val|) (E + 2 * u * |x.val| + 9 * u ^ 2 * (T + |x.val|))
      (k.add x).sum.val (k.add x).comp.val :=
  g_step hu hu' hfl S T E k x h hnext

/-- **Re-targeting.** The same register tracks a nearby target `S'` with a larger budget and an
    allowance enlarged by `|S' − S|`. -/
theorem retarget (S S' T T' E E' : ℝ) (k : Kahan (RR fl)) (h : G u S T E k.sum.val k.comp.val)
    (hu : 0 ≤ u) (hS : |S' - S| ≤ E' - E) (hT : T ≤ T') (hS' : |S'| ≤ T') (hE' : E' ≤ T' / 4) :
    G u S' T' E' k.sum.val k.comp.val :=
  g_retarget S S' T T' E E' _ _ h hu hS hT hS' hE'

/-- non-vacuity of `inv_step`: the register `(1, 0)` tracks `1`, and the step hypothesis holds -/
example : G (1 / 128 : ℝ) 1 1 (1 / 8) (1 : ℝ) 0 ∧
    (1 / 8 : ℝ) + 2 * (1 / 128) * |(2 : ℝ)| + 9 * (1 / 128) ^ 2 * (1 + |(2 : ℝ)|) ≤ (1 + |(2 : ℝ)|) / 4 := by
  refine ⟨⟨by norm_num, by norm_num, by norm_num, by norm_num⟩, ?_⟩
  rw [abs_of_pos (by norm_num : (0 : ℝ) < 2)]
  norm_num

/-! ### 3. Sequential summation -/

/-- **Sequential bound.** Feeding any list to the empty register one `+=` at a time and reading
    it with the crate's `value()`: the error is at most `(10u + 9(n+2)u²)·Σ|x|`. -/
theorem sequential (hu : 0 ≤ u) (hu' : u ≤ 1 / 64) (hfl : ∀ x, |fl x - x| ≤ u * |x|)
    (xs : List ℝ) (hn : (xs.length : ℝ) * u ≤ 1) :
    |((Kahan.empty : Kahan (RR fl)).addList (xs.map inj)).value.val - xs.sum| ≤
      (10 * u + 9 * (xs.length + 2) * u ^ 2) * (xs.map abs).sum :=
  kahan_sequential hu hu' hfl xs hn

example : (([1, 2, 3] : List ℝ).length : ℝ) * (1 / 128) ≤ 1 := by norm_num

/-! ### 4. Arbitrary accumulation histories (merge trees)

`Tb u p` (magnitude budget) and `Eb u p` (error allowance) are defined by recursion over the
history in `StatsCI.KahanLemmas.budget`; `Ok u p` is the node-wise side condition `Eb ≤ Tb/4`
(at every node, and after every element of an `extend`). The recursion is restated here as
`budget_recursion`. Compared with the sketch in DESIGN.md Appendix A.2 the magnitude of the right
operand is bounded through the *exact* `Σ|data r|` instead of `Tb r`
(`|s_r| + |c_r| ≤ Σ|data r| + Eb r + 6u·Tb r`), which keeps `Tb ≤ 5/4·Σ|x|` at every depth. -/

/-- the recursion defining the budgets -/
theorem budget_recursion (u : ℝ) :
    Tb u .empty = 0 ∧ Eb u .empty = 0 ∧
    (∀ p x, Tb u (.append p x) = Tb u p + |x|) ∧
    (∀ p x, Eb u (.append p x) = Eb u p + 2 * u * |x| + 9 * u ^ 2 * Tb u (.append p x)) ∧
    (∀ p, Tb u (.extend p []) = Tb u p ∧ Eb u (.extend p []) = Eb u p) ∧
    (∀ p x xs, Tb u (.extend p (x :: xs)) = Tb u (.extend (.append p x) xs) ∧
               Eb u (.extend p (x :: xs)) = Eb u (.extend (.append p x) xs)) ∧
    (∀ l r, Tb u (.merge l r) = Tb u l + ((r.data.map abs).sum + Eb u r + 6 * u * Tb u r)) ∧
    (∀ l r, Eb u (.merge l r) = Eb u l + Eb u r + 6 * u * Tb u r
        + 2 * u * ((r.data.map abs).sum + Eb u r + 6 * u * Tb u r)
        + 18 * u ^ 2 * Tb u (.merge l r)) :=
  ⟨rfl, rfl, fun _ _ => rfl, fun _ _ => rfl, fun _ => ⟨rfl, rfl⟩, fun _ _ _ => ⟨rfl, rfl⟩,
    fun _ _ => rfl, fun _ _ => rfl⟩

/-- **Program theorem.** For every accumulation history `p` (any tree of `append`, `extend`,
    `merge`) satisfying the node-wise side condition, the register reached by the model satisfies
    the invariant `G` with target the exact sum of the delivered data and the budgets
    `Tb u p`, `Eb u p`; and `value()` is within `Eb + 8u·Tb` of the exact sum. -/
theorem program (hu : 0 ≤ u) (hu' : u ≤ 1 / 64) (hfl : ∀ x, |fl x - x| ≤ u * |x|)
    (p : Prog ℝ) (hok : Ok u p) :
    G u p.data.sum (Tb u p) (Eb u p)
      ((p.map inj).evalK : Kahan (RR fl)).sum.val ((p.map inj).evalK : Kahan (RR fl)).comp.val ∧
    |((p.map inj).evalK : Kahan (RR fl)).value.val - p.data.sum| ≤ Eb u p + 8 * u * Tb u p :=
  have h := prog_inv hu hu' hfl p hok
  ⟨h, value_bound hu hu' hfl h⟩

/-- **Closed form of the budgets.** If the relative allowance
    `(2 + 10·rdepth)·u + 12·steps·u²` is at most `1/8`, the side condition holds at every node,
    `Σ|x| ≤ Tb ≤ 5/4·Σ|x|` and `Eb ≤ ((2 + 10·rdepth)·u + 12·steps·u²)·Σ|x|`. -/
theorem program_budgets (hu : 0 ≤ u) (hu' : u ≤ 1 / 64) (p : Prog ℝ)
    (hs : (2 + 10 * p.rdepth) * u + 12 * p.steps * u ^ 2 ≤ 1 / 8) :
    Ok u p ∧ (p.data.map abs).sum ≤ Tb u p ∧ Tb u p ≤ 5 / 4 * (p.data.map abs).sum ∧
    Eb u p ≤ ((2 + 10 * p.rdepth) * u + 12 * p.steps * u ^ 2) * (p.data.map abs).sum := by
  obtain ⟨h1, h2, h3⟩ := budget_closed hu hu' p hs
  exact ⟨h1, (budget_facts hu p).2, h2, h3⟩

/-- **Closed form, general smallness hypothesis.** -/
theorem program_closed' (hu : 0 ≤ u) (hu' : u ≤ 1 / 64) (hfl : ∀ x, |fl x - x| ≤ u * |x|)
    (p : Prog ℝ) (hs : (2 + 10 * p.rdepth) * u + 12 * p.steps * u ^ 2 ≤ 1 / 8) :
    |((p.map inj).evalK : Kahan (RR fl)).value.val - p.data.sum| ≤
      ((12 + 10 * p.rdepth) * u + 12 * p.steps * u ^ 2) * (p.data.map abs).sum := by
  obtain ⟨hok, -, hT, hE⟩ := program_budgets hu hu' p hs
  have hv := (program hu hu' hfl p hok).2
  have q : u * Tb u p ≤ u * (5 / 4 * (p.data.map abs).sum) := mul_le_mul_of_nonneg_left hT hu
  linear_combination hv + 8 * q + hE

/-- **Closed form.** For every accumulation history with `steps·u ≤ 1` and
    `(rdepth + 1)·u ≤ 1/128` the error of `value()` is at most
    `((12 + 10·rdepth)·u + 12·steps·u²)·Σ|x|`: the first-order constant depends on how often a
    register is consumed as the *right* operand of a merge on the way to the root (because `+=`
    adds `+rhs.compensation`), never on the number of terms. -/
theorem program_closed (hu : 0 ≤ u) (hfl : ∀ x, |fl x - x| ≤ u * |x|) (p : Prog ℝ)
    (hn : (p.steps : ℝ) * u ≤ 1) (hd : ((p.rdepth : ℝ) + 1) * u ≤ 1 / 128) :
    |((p.map inj).evalK : Kahan (RR fl)).value.val - p.data.sum| ≤
      ((12 + 10 * p.rdepth) * u + 12 * p.steps * u ^ 2) * (p.data.map abs).sum := by
  have hdu : 0 ≤ (p.rdepth : ℝ) * u := mul_nonneg (Nat.cast_nonneg _) hu
  have hnu : (p.steps : ℝ) * u * u ≤ 1 * u := mul_le_mul_of_nonneg_right hn hu
  exact program_closed' hu (by linear_combination hd + hdu) hfl p
    (by linear_combination 12 * hnu + 4 * hdu + 14 * hd)

/-- **Left fold.** Chunks summed sequentially and merged into one accumulator from the left
    (`leftFold`): the right-depth is at most 1 whatever the number of chunks, so the constant is
    absolute: `22u + 12·steps·u²`. -/
theorem program_leftFold (hu : 0 ≤ u) (hu' : u ≤ 1 / 256) (hfl : ∀ x, |fl x - x| ≤ u * |x|)
    (chunks : List (List ℝ)) (hn : ((leftFold chunks).steps : ℝ) * u ≤ 1) :
    |(((leftFold chunks).map inj).evalK : Kahan (RR fl)).value.val - chunks.flatten.sum| ≤
      (22 * u + 12 * (leftFold chunks).steps * u ^ 2) * (chunks.flatten.map abs).sum := by
  have hd1 : ((leftFold chunks).rdepth : ℝ) ≤ 1 := by exact_mod_cast rdepth_leftFold_le chunks
  have hdu : ((leftFold chunks).rdepth : ℝ) * u ≤ 1 * u := mul_le_mul_of_nonneg_right hd1 hu
  have h := program_closed hu hfl (leftFold chunks) hn (by linear_combination hdu + 2 * hu')
  rw [data_leftFold] at h
  have hA : 0 ≤ (chunks.flatten.map abs).sum := sumAbs_nonneg _
  have q : ((leftFold chunks).rdepth : ℝ) * u * (chunks.flatten.map abs).sum
      ≤ 1 * u * (chunks.flatten.map abs).sum := mul_le_mul_of_nonneg_right hdu hA
  linear_combination h + 10 * q

/-- non-vacuity of `program_closed`: a merge of two sequentially built registers, `u = 2⁻¹⁰` -/
example : let p : Prog ℝ := .merge (.extend .empty [1, -2]) (.append (.extend .empty [3]) 4)
    ((p.steps : ℝ) * (1 / 1024) ≤ 1) ∧ (((p.rdepth : ℝ) + 1) * (1 / 1024) ≤ 1 / 128) := by
  norm_num [Prog.steps, Prog.rdepth]

/-- non-vacuity of `program`: that history satisfies the node-wise side condition -/
example : Ok (1 / 1024)
    (.merge (.extend .empty [1, -2]) (.append (.extend .empty [3]) 4) : Prog ℝ) := by
  refine (program_budgets (by norm_num) (by norm_num) _ ?_).1
  norm_num [Prog.steps, Prog.rdepth]

/-! ### 5. Exact arithmetic -/

/-- **Exactness.** With `fl = id` every accumulation history holds the exact sum of the data it
    delivered, every compensation is `0`, and `value()` is the exact sum. -/
theorem exact (p : Prog ℝ) :
    ((p.map inj).evalK : Kahan Rex).sum.val = p.data.sum ∧
    ((p.map inj).evalK : Kahan Rex).comp.val = 0 ∧
    ((p.map inj).evalK : Kahan Rex).value.val = p.data.sum := by
  obtain ⟨h1, h2⟩ := evalK_exact p
  refine ⟨h1, h2, ?_⟩
  rw [value_val, h1, h2]; simp

/-! ### 6. `Arithmetic`'s two registers are `Kahan` registers of the same history -/

/-- **Inheritance.** For every history (over any carrier, in particular `RR fl`) the `sum`
    register of `Arithmetic` is the `Kahan` register of the history, the `sum_sq` register is the
    `Kahan` register of the history of squares `x ↦ x*x` (computed in the carrier), and `count` is
    the number of observations; so `sequential` and `program` apply to both registers. -/
theorem stats_inherit (p : Prog (RR fl)) :
    p.evalA.sum = p.evalK ∧
    p.evalA.sumSq = (p.map fun x => NumOps.mul x x).evalK ∧
    p.evalA.count = p.data.length :=
  evalA_fields p

/-- the same for an arbitrary carrier (operations only, no laws) -/
theorem stats_inherit_generic {α : Type} [Scalar α] (p : Prog α) :
    p.evalA.sum = p.evalK ∧
    p.evalA.sumSq = (p.map fun x => NumOps.mul x x).evalK ∧
    p.evalA.count = p.data.length :=
  evalA_fields p

end StatsCI.C08
