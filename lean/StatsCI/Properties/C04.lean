/-
  C04 — Paired = mean CI of the differences; unpaired = the documented Welch-type interval.

  Items 1–2 hold for *every* carrier `F`/`W`: no arithmetic law is used, only what the feeding
  loops do (`Paired.extendAux_eq`, `Paired.extendTuple_zip` in `Lemmas/EntryPoints`). Items 3–4 are
  at exact arithmetic `Rex = RR id`; item 5 for every rounding function with `fl (-x) = -fl x`.

  Real statistics (`StatsCI.MeanLemmas`, files `Lemmas/SampleStats.lean`, `Lemmas/MeanUnpaired.lean`):
  `smean`, `svar`; `welchA xs = svar xs / n`;
  `welchDof A B na nb = (A+B)²/(A²/(na+1) + B²/(nb+1)) - 2`;
  `welchNu as bs = welchDof (welchA as) (welchA bs) na nb`;
  `welchHalf crit conf as bs = (crit (critReq conf ⟨welchNu as bs⟩)).val * √(welchA as + welchA bs)`.
-/
import StatsCI.Lemmas.MeanUnpaired
import StatsCI.Lemmas.MeanSym

namespace StatsCI.C04
open StatsCI StatsCI.MeanLemmas NumOps Scalar

/-! ### 1. paired is the mean CI of the differences (every carrier) -/

section paired
variable {F W : Type} [Scalar F] [Scalar W] [Widen F W]

/-- `Paired::ci(conf, as, bs)` is `Arithmetic::ci(conf, as - bs)` for samples of equal length -/
theorem paired_is_mean_of_diffs (crit : Crit W) (conf : Confidence W) (as bs : List F)
    (h : as.length = bs.length) :
    Paired.ci crit conf as bs = Arith.ci crit conf (List.zipWith NumOps.sub as bs) := by
  rw [Paired.ci_eq, if_pos h]

/-- `extend(as, bs)` on any state: succeeds, and both the returned and the left-behind state
    are the statistics extended by the differences -/
theorem paired_extend (p : Paired F) (as bs : List F) (h : as.length = bs.length) :
    (Paired.extend p as bs : Outcome (Err W) (Paired F) × Paired F) =
      (.ok ⟨p.stats.extend (List.zipWith NumOps.sub as bs)⟩,
        ⟨p.stats.extend (List.zipWith NumOps.sub as bs)⟩) :=
  Paired.extendAux_eq_len p 0 as bs h

/-- `extend_tuple(zip(as, bs))` reaches the same statistics (no length condition: `zip` and
    `zipWith` both stop at the shorter list) -/
theorem paired_extendTuple (p : Paired F) (as bs : List F) :
    (Paired.extendTuple p (as.zip bs)).stats =
      p.stats.extend (List.zipWith NumOps.sub as bs) :=
  Paired.extendTuple_zip p as bs

/-- `append_pair` one pair at a time is `extend_tuple` (it is its left fold) -/
theorem paired_appendPair (p : Paired F) (ps : List (F × F)) :
    ps.foldl (fun p ab => p.appendPair ab.1 ab.2) p = Paired.extendTuple p ps := rfl

/-- the three feeding styles give the same interval -/
theorem paired_styles (crit : Crit W) (conf : Confidence W) (as bs : List F)
    (h : as.length = bs.length) :
    (((Paired.extend Paired.empty as bs).1 : Outcome (Err W) (Paired F)).bind
        fun p => p.ciMean crit conf) = Arith.ci crit conf (List.zipWith NumOps.sub as bs) ∧
    (Paired.extendTuple Paired.empty (as.zip bs)).ciMean crit conf =
      Arith.ci crit conf (List.zipWith NumOps.sub as bs) ∧
    ((as.zip bs).foldl (fun p ab => p.appendPair ab.1 ab.2) Paired.empty).ciMean crit conf =
      Arith.ci crit conf (List.zipWith NumOps.sub as bs) := by
  have h2 : (Paired.extendTuple Paired.empty (as.zip bs)).ciMean crit conf =
      Arith.ci crit conf (List.zipWith NumOps.sub as bs) := by
    unfold Paired.ciMean
    rw [paired_extendTuple]
    rfl
  exact ⟨paired_is_mean_of_diffs crit conf as bs h, h2, h2⟩

/-! ### 2. unequal lengths -/

/-- unequal lengths: `DifferentSampleSizes(len_a, len_b)`, whichever is longer -/
theorem length_mismatch (p : Paired F) (as bs : List F) (h : as.length ≠ bs.length) :
    ((Paired.extend p as bs : Outcome (Err W) (Paired F) × Paired F)).1 =
      .err (.differentSampleSizes as.length bs.length) := by
  unfold Paired.extend
  rw [Paired.extendAux_fst, if_neg h, Nat.zero_add, Nat.zero_add]

/-- the same through `Paired::ci` -/
theorem length_mismatch_ci (crit : Crit W) (conf : Confidence W) (as bs : List F)
    (h : as.length ≠ bs.length) :
    Paired.ci crit conf as bs = .err (.differentSampleSizes as.length bs.length) := by
  rw [Paired.ci_eq, if_neg h]

end paired

/-! ### 4. the effective degrees of freedom are at least `min(na, nb) - 1 ≥ 1` -/

/-- for `na, nb ≥ 2` and variance terms `A, B ≥ 0` not both zero -/
theorem dof_pos (A B na nb : ℝ) (hna : 2 ≤ na) (hnb : 2 ≤ nb) (hA : 0 ≤ A) (hB : 0 ≤ B)
    (hAB : ¬ (A = 0 ∧ B = 0)) :
    min na nb - 1 ≤ (A + B) ^ 2 / (A ^ 2 / (na + 1) + B ^ 2 / (nb + 1)) - 2 ∧
      1 ≤ min na nb - 1 := by
  have hpos : 0 < A + B :=
    (add_nonneg hA hB).lt_of_ne' fun h => hAB ((add_eq_zero_iff_of_nonneg hA hB).mp h)
  exact ⟨welchDof_ge A B na nb hna hnb hA hB hpos, one_le_min_sub_one hna hnb⟩

/-- for two real samples of sizes `≥ 2`, not both constant, the requested degrees of freedom
    are `≥ min(na, nb) - 1 ≥ 1`: the t quantile is defined -/
theorem dof_pos_samples (as bs : List ℝ) (hna : 2 ≤ as.length) (hnb : 2 ≤ bs.length)
    (hv : 0 < svar as ∨ 0 < svar bs) :
    min (as.length : ℝ) bs.length - 1 ≤ welchNu as bs ∧ 1 ≤ welchNu as bs := by
  have hA := welchA_nonneg as (by omega)
  have hB := welchA_nonneg bs (by omega)
  have hAB : 0 < welchA as + welchA bs := by
    rcases hv with h | h
    · exact add_pos_of_pos_of_nonneg (welchA_pos as (by omega) h) hB
    · exact add_pos_of_nonneg_of_pos hA (welchA_pos bs (by omega) h)
  have h2a : (2 : ℝ) ≤ as.length := Nat.ofNat_le_cast.mpr hna
  have h2b : (2 : ℝ) ≤ bs.length := Nat.ofNat_le_cast.mpr hnb
  have h := welchDof_ge _ _ _ _ h2a h2b hA hB hAB
  exact ⟨h, (one_le_min_sub_one h2a h2b).trans h⟩

/-! ### 3. the unpaired interval -/

/-- the states `Unpaired::ci` works on are the arithmetic statistics of the two samples -/
theorem unpaired_states {F : Type} [Scalar F] (xs ys : List F) :
    Unpaired.fromLists xs ys = ⟨Arith.fromList xs, Arith.fromList ys⟩ ∧
    (Unpaired.empty.extend xs ys : Unpaired F) = ⟨Arith.fromList xs, Arith.fromList ys⟩ :=
  ⟨rfl, rfl⟩

/-- sizes `≥ 2`, valid level, positive effective degrees of freedom `ν`: the bounds are
    `(x̄a - x̄b) ∓ c·√(sa²/na + sb²/nb)` with `c` the answer to the request at `ν`
    (`t(ν)` below the population limit, `z` from it on), assembled by kind as in C01 -/
theorem unpaired_formula_of_dof_pos (crit : Crit Rex) (conf : Confidence Rex) (as bs : List ℝ)
    (hna : 2 ≤ as.length) (hnb : 2 ≤ bs.length) (h0 : 0 < conf.level.val)
    (h1 : conf.level.val < 1) (hd : 0 < welchNu as bs) :
    Unpaired.ci crit conf (as.map inj) (bs.map inj) =
      match conf with
      | .twoSided _ =>
        if 0 ≤ welchHalf crit conf as bs then
          .ok (.twoSided (⟨(smean as - smean bs) - welchHalf crit conf as bs⟩ : Rex)
            ⟨(smean as - smean bs) + welchHalf crit conf as bs⟩)
        else .err (.interval .invalidBounds)
      | .upper _ => .ok (.upper (⟨(smean as - smean bs) - welchHalf crit conf as bs⟩ : Rex))
      | .lower _ => .ok (.lower (⟨(smean as - smean bs) + welchHalf crit conf as bs⟩ : Rex)) := by
  have hA := welchA_nonneg as (by omega)
  have hB := welchA_nonneg bs (by omega)
  -- `ν > 0` excludes two constant samples, where `ν = -2`; then the lower bound on `ν` is inactive
  have hAB : 0 < welchA as + welchA bs :=
    (add_nonneg hA hB).lt_of_ne' fun h => by
      obtain ⟨hA', hB'⟩ := (add_eq_zero_iff_of_nonneg hA hB).mp h
      rw [welchNu, hA', hB', welchDof_zero] at hd
      exact lt_asymm hd (neg_neg_of_pos two_pos)
  rw [Unpaired.ci_rex_clamped crit conf as bs hna hnb (probOk_quantile conf h0 h1),
    clampedDof_lists as bs hna hnb hAB,
    intervalOfKind_pm]
  cases conf <;> rfl

/-- the same under the natural hypothesis: not both samples constant (then `ν ≥ 1` by item 4) -/
theorem unpaired_formula (crit : Crit Rex) (conf : Confidence Rex) (as bs : List ℝ)
    (hna : 2 ≤ as.length) (hnb : 2 ≤ bs.length) (h0 : 0 < conf.level.val)
    (h1 : conf.level.val < 1) (hv : 0 < svar as ∨ 0 < svar bs) :
    Unpaired.ci crit conf (as.map inj) (bs.map inj) =
      match conf with
      | .twoSided _ =>
        if 0 ≤ welchHalf crit conf as bs then
          .ok (.twoSided (⟨(smean as - smean bs) - welchHalf crit conf as bs⟩ : Rex)
            ⟨(smean as - smean bs) + welchHalf crit conf as bs⟩)
        else .err (.interval .invalidBounds)
      | .upper _ => .ok (.upper (⟨(smean as - smean bs) - welchHalf crit conf as bs⟩ : Rex))
      | .lower _ => .ok (.lower (⟨(smean as - smean bs) + welchHalf crit conf as bs⟩ : Rex)) :=
  unpaired_formula_of_dof_pos crit conf as bs hna hnb h0 h1
    (lt_of_lt_of_le one_pos (dof_pos_samples as bs hna hnb hv).2)

/-- the request made: Student's t with `ν` degrees of freedom below the population limit,
    the normal quantile from it on -/
theorem unpaired_request (conf : Confidence Rex) (as bs : List ℝ) :
    critReq conf (⟨welchNu as bs⟩ : Rex) =
      if welchNu as bs < 100000 then .t ⟨welchNu as bs⟩ conf.quantile else .z conf.quantile :=
  critReq_rex conf _

/-- `ν` is the documented expression in the two sample variances and sizes -/
theorem unpaired_dof_formula (as bs : List ℝ) :
    welchNu as bs =
      (svar as / as.length + svar bs / bs.length) ^ 2 /
        ((svar as / as.length) ^ 2 / ((as.length : ℝ) + 1) +
          (svar bs / bs.length) ^ 2 / ((bs.length : ℝ) + 1)) - 2 := rfl

/-- **Two constant samples.** With both variances zero the documented expression is `0/0 - 2`
    (`-2` in Lean's real division, NaN in IEEE arithmetic). The crate bounds the computed value
    below by `min(na, nb) - 1` (`fix: the effective degrees of freedom … never fall below
    min(n_a, n_b) - 1`), so the model at exact arithmetic requests the t quantile at
    `min(na, nb) - 1 ≥ 1` degrees of freedom, the standard error is zero and the interval is the
    degenerate one at the difference of the means: no panic. (In IEEE arithmetic the NaN passes
    through the bound, `NaN < x` being false, and the `z` branch is taken; that this does not
    panic either is `C11.unpaired_total_XR`.) -/
theorem unpaired_both_constant (crit : Crit Rex) (conf : Confidence Rex) (as bs : List ℝ)
    (hna : 2 ≤ as.length) (hnb : 2 ≤ bs.length) (h0 : 0 < conf.level.val)
    (h1 : conf.level.val < 1) (ha : svar as = 0) (hb : svar bs = 0) :
    welchNu as bs = -2 ∧
      clampedDof (welchA as) (welchA bs) as.length bs.length = min (as.length : ℝ) bs.length - 1 ∧
      Unpaired.ci crit conf (as.map inj : List Rex) (bs.map inj) =
        match conf with
        | .twoSided _ => .ok (.twoSided (⟨smean as - smean bs⟩ : Rex) ⟨smean as - smean bs⟩)
        | .upper _ => .ok (.upper (⟨smean as - smean bs⟩ : Rex))
        | .lower _ => .ok (.lower (⟨smean as - smean bs⟩ : Rex)) := by
  have hA : welchA as = 0 := by rw [welchA, ha, zero_div]
  have hB : welchA bs = 0 := by rw [welchA, hb, zero_div]
  refine ⟨by rw [welchNu, hA, hB, welchDof_zero], ?_, ?_⟩
  · rw [hA, hB]
    exact clampedDof_zero _ _ (Nat.ofNat_le_cast.mpr hna) (Nat.ofNat_le_cast.mpr hnb)
  · rw [Unpaired.ci_rex_clamped crit conf as bs hna hnb (probOk_quantile conf h0 h1),
      intervalOfKind_pm]
    simp only [hA, hB, add_zero, Real.sqrt_zero, mul_zero, sub_zero, le_refl, if_true]
    cases conf <;> rfl

/-- **The degrees of freedom handed on are never below `min(na, nb) - 1 ≥ 1`**, whatever the
    two samples of sizes `≥ 2` (constant or not): `t_value` is never asked for a non-positive
    number of degrees of freedom. When not both samples are constant the bound is inactive and
    the value is the documented expression `ν` (`dof_pos_samples`). -/
theorem unpaired_dof_clamped (as bs : List ℝ) (hna : 2 ≤ as.length) (hnb : 2 ≤ bs.length) :
    min (as.length : ℝ) bs.length - 1 ≤ clampedDof (welchA as) (welchA bs) as.length bs.length ∧
    1 ≤ clampedDof (welchA as) (welchA bs) as.length bs.length ∧
    ((0 < svar as ∨ 0 < svar bs) →
      clampedDof (welchA as) (welchA bs) as.length bs.length = welchNu as bs) := by
  have h := clampedDof_ge (welchA as) (welchA bs) as.length bs.length (by exact_mod_cast hna)
    (by exact_mod_cast hnb)
  refine ⟨h.1, h.2, fun hv => ?_⟩
  exact max_eq_left (dof_pos_samples as bs hna hnb hv).1

/-! ### 5. exchanging the samples -/

/-- for every rounding function with `fl (-x) = -fl x` (IEEE round-to-nearest included):
    exchanging the two samples negates and mirrors the interval and exchanges upper and lower
    one-sidedness, `CI_conf(b, a) = -CI_conf.flipped(a, b)`; errors and panics are the same on
    both sides. (`x + y = y + x` under any rounding makes the standard error and the degrees of
    freedom symmetric; both sides request the same critical value.)
    The hypothesis on the counts excludes only the case where both samples are too small with
    different sizes, where the reported `TooFewSamples(n)` names the first sample. -/
theorem swap {fl : ℝ → ℝ} (hodd : ∀ x, fl (-x) = -fl x) (crit : Crit (RR fl))
    (u : Unpaired (RR fl)) (conf : Confidence (RR fl))
    (hcount : u.a.count < 2 → u.b.count < 2 → u.a.count = u.b.count) :
    Unpaired.ciMean crit ⟨u.b, u.a⟩ conf =
      (Unpaired.ciMean crit u conf.flipped).map Interval.negI := by
  rw [Unpaired.ciMean_eq_finish, Unpaired.ciMean_eq_finish, Unpaired.ciPrep_swap hodd u hcount,
    finish_neg hodd]

/-- the same through `Unpaired::ci` on two data sets (any sizes, except both too small with
    different sizes) -/
theorem swap_ci {fl : ℝ → ℝ} (hodd : ∀ x, fl (-x) = -fl x) (crit : Crit (RR fl))
    (conf : Confidence (RR fl)) (xs ys : List (RR fl))
    (h : xs.length < 2 → ys.length < 2 → xs.length = ys.length) :
    Unpaired.ci crit conf ys xs = (Unpaired.ci crit conf.flipped xs ys).map Interval.negI :=
  swap hodd crit (Unpaired.fromLists xs ys) conf (by
    simp only [Unpaired.fromLists_a, Unpaired.fromLists_b, Arith.fromList_count]
    exact h)

/-! ### non-vacuity -/

/-- lists of equal / unequal lengths; two samples not both constant (items 3, 4); numbers meeting
    the hypotheses of `dof_pos`; a constant sample (`unpaired_both_constant`); the exact arithmetic
    `fl = id` is odd -/
example : [(1 : ℝ), 2].length = [(3 : ℝ), 5].length ∧ [(1 : ℝ)].length ≠ [(3 : ℝ), 5].length := by
  simp

example : 0 < svar [1, 2] ∨ 0 < svar [3, 3] := by
  left
  norm_num [svar, sdev2, smean]

example : (2 : ℝ) ≤ 2 ∧ (2 : ℝ) ≤ 3 ∧ (0 : ℝ) ≤ 1 ∧ (0 : ℝ) ≤ 0 ∧ ¬ ((1 : ℝ) = 0 ∧ (0 : ℝ) = 0) := by
  refine ⟨le_refl _, by norm_num, by norm_num, le_refl _, ?_⟩
  rintro ⟨h, _⟩; norm_num at h

example : svar [3, 3] = 0 := MeanRound.svar_pair_self 3

example : ∀ x : ℝ, (id : ℝ → ℝ) (-x) = -(id x) := fun _ => rfl

/-! ### the documented effective dof is scale-free (the basis of the check's oracle for far-out data, D18) -/

/-- the documented effective degrees of freedom depend on the *ratio* of the two variance terms only:
    a common factor (the unit of measurement squared) cancels -/
theorem welchDof_scale (c A B na nb : ℝ) (hc : c ≠ 0) :
    welchDof (c * A) (c * B) na nb = welchDof A B na nb := by
  unfold welchDof
  rw [← mul_add, mul_pow, mul_pow, mul_pow, mul_div_assoc (c ^ 2) (A ^ 2),
    mul_div_assoc (c ^ 2) (B ^ 2), ← mul_add, mul_div_mul_left _ _ (pow_ne_zero 2 hc)]

/-- the scale-free form the check's oracle evaluates: with `r = B / A` (for `A ≠ 0`) -/
theorem welchDof_ratio (A B na nb : ℝ) (hA : A ≠ 0) :
    welchDof A B na nb = (1 + B / A) ^ 2 / (1 / (na + 1) + (B / A) ^ 2 / (nb + 1)) - 2 := by
  have := welchDof_scale A⁻¹ A B na nb (inv_ne_zero hA)
  rw [← this, inv_mul_cancel₀ hA]
  unfold welchDof
  rw [← div_eq_inv_mul, one_pow]

/-- … and with `r = A / B` for `B ≠ 0` -/
theorem welchDof_ratio' (A B na nb : ℝ) (hB : B ≠ 0) :
    welchDof A B na nb = (A / B + 1) ^ 2 / ((A / B) ^ 2 / (na + 1) + 1 / (nb + 1)) - 2 := by
  have := welchDof_scale B⁻¹ A B na nb (inv_ne_zero hB)
  rw [← this, inv_mul_cancel₀ hB]
  unfold welchDof
  rw [← div_eq_inv_mul, one_pow]

example : welchDof (4 * 3) (4 * 5) 7 9 = welchDof 3 5 7 9 := welchDof_scale 4 3 5 7 9 (by norm_num)


end StatsCI.C04
