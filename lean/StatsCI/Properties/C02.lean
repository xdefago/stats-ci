/-
  C02 — The default proportion interval (Wilson score) returns the two roots of the score
  equation, inside `[0, 1]`, with far ends `1` / `0` for one-sided requests; the Wald variant
  returns `k/n ∓ z·√((k/n)(1-k/n)/n)`; each method accepts exactly its documented domain; every
  front-end returns the interval of the counts it implies.

  All statements are about the model functions of `StatsCI.Model.Proportion` themselves,
  instantiated at exact real arithmetic `Rex = RR id`, with an arbitrary external quantile oracle
  `crit : Crit Rex`.  Abbreviations (from `StatsCI.Lemmas.Wilson`; the first three reducible):
    `zOf crit conf   := (crit (.z conf.quantile)).val`             the supplied critical value
    `mCentre n k z   := (wilsonCentre ⟨n⟩ ⟨k⟩ ⟨z⟩ : Rex).val`       the model's Wilson centre
    `mSpan n k z     := (wilsonSpan ⟨n⟩ ⟨k⟩ ⟨z⟩ : Rex).val`         the model's Wilson span
    `waldSd n k      := √((k/n)(1 - k/n)/n)`                       (a definition over real `n`, `k`)
  A confidence is *valid* when its level `l` satisfies `0 < l < 1` (what every constructor of the
  crate enforces; `validLevel_iff`).

  `ci_wilson` clamps its two bounds into `[0, 1]` (`(mean - span).max(0.)`, `(mean + span).min(1.)`)
  before it builds the interval.  In exact arithmetic the clamp never acts on the domain (both roots
  are proportions, `bounds_in_unit`), so the statements below are about `centre ∓ span` themselves;
  what the clamp guarantees on *every* carrier `RR fl` is `ciWilson_ok_in_unit` (§4).

  What the sign of the oracle's answer does (the model does not know that `z` is a quantile):
  a two-sided request needs `0 ≤ z` for `Interval::new` to accept `centre - span ≤ centre + span`;
  with `z < 0` it answers `Err(IntervalError::InvalidBounds)`.  One-sided Wilson requests are
  accepted for every real `z`.
-/
import StatsCI.Lemmas.Wilson
import StatsCI.Lemmas.WilsonRound

namespace StatsCI.C02
open StatsCI Proportion Wilson

/-! ## 0. valid confidences never make `inverse_cdf` panic -/

/-- the crate's validity test on the level is `0 < l < 1` -/
theorem validLevel_iff (l : Rex) : Confidence.validLevel l = true ↔ 0 < l.val ∧ l.val < 1 :=
  RR.validLevel_iff l

/-- the probability handed to the normal quantile: `1 - (1 - l)/2` two-sided, `l` one-sided -/
theorem quantile_val (l : Rex) :
    (Confidence.quantile (.twoSided l)).val = 1 - (1 - l.val) / 2 ∧
    (Confidence.quantile (.upper l)).val = l.val ∧ (Confidence.quantile (.lower l)).val = l.val :=
  ⟨by rw [Confidence.quantile_twoSided_val]; ring, rfl, rfl⟩

/-- for a valid confidence the probability is in `[0,1]`, so `z_value` returns the oracle's answer -/
theorem zValue_ok (crit : Crit Rex) (conf : Confidence Rex) (h0 : 0 < conf.level.val)
    (h1 : conf.level.val < 1) :
    probOk conf.quantile = true ∧ zValue crit conf = .ok (crit (.z conf.quantile)) :=
  ⟨probOk_quantile conf h0 h1, zValue_eq crit conf (probOk_quantile conf h0 h1)⟩

example : ∃ conf : Confidence Rex, 0 < conf.level.val ∧ conf.level.val < 1 :=
  ⟨.twoSided ⟨0.95⟩, by norm_num [Confidence.level], by norm_num [Confidence.level]⟩

/-! ## 1. bridge: the model's two Wilson numbers in closed form -/

/-- in exact arithmetic `wilsonCentre` is `(k + z²/2)/(n + z²)` and `wilsonSpan` is
    `z/(n + z²) · √(k(n-k)/n + z²/4)` (for all real arguments) -/
theorem bridge (n k z : ℝ) :
    (wilsonCentre (⟨n⟩ : Rex) ⟨k⟩ ⟨z⟩).val = (k + z ^ 2 / 2) / (n + z ^ 2) ∧
    (wilsonSpan (⟨n⟩ : Rex) ⟨k⟩ ⟨z⟩).val
      = z / (n + z ^ 2) * Real.sqrt (k * (n - k) / n + z ^ 2 / 4) :=
  ⟨wilsonCentre_val n k z, wilsonSpan_val n k z⟩

/-! ## 2. the bounds are the two roots of the score equation -/

/-- a real `p` solves the score equation `(p - k/n)² = z² p(1-p)/n` iff it is one of the two
    bounds -/
theorem score_root_iff (n k : ℕ) (hn : 0 < n) (hk : k ≤ n) (z p : ℝ) :
    (p - k / n) ^ 2 = z ^ 2 * (p * (1 - p)) / n ↔
      p = mCentre n k z - mSpan n k z ∨ p = mCentre n k z + mSpan n k z := by
  obtain ⟨hn', hk0, hkn⟩ := cast_dom hn hk
  simp only [mCentre, mSpan, wilsonCentre_val, wilsonSpan_val]
  exact Wilson.score_root_iff n k z p hn' hk0 hkn

/-- in particular both `centre - span` and `centre + span` solve it -/
theorem score_root (n k : ℕ) (hn : 0 < n) (hk : k ≤ n) (z : ℝ) :
    (mCentre n k z - mSpan n k z - k / n) ^ 2
      = z ^ 2 * ((mCentre n k z - mSpan n k z) * (1 - (mCentre n k z - mSpan n k z))) / n ∧
    (mCentre n k z + mSpan n k z - k / n) ^ 2
      = z ^ 2 * ((mCentre n k z + mSpan n k z) * (1 - (mCentre n k z + mSpan n k z))) / n :=
  ⟨(score_root_iff n k hn hk z _).mpr (Or.inl rfl), (score_root_iff n k hn hk z _).mpr (Or.inr rfl)⟩

example : (0 : ℕ) < 10 ∧ 3 ≤ 10 := by omega

/-! ## 3. the roots lie in `[0, 1]` and enclose `k/n` -/

/-- for every real `z` (negative ones included) `0 ≤ centre - |span| ≤ k/n ≤ centre + |span| ≤ 1` -/
theorem in_unit (n k : ℕ) (hn : 0 < n) (hk : k ≤ n) (z : ℝ) :
    0 ≤ mCentre n k z - |mSpan n k z| ∧
    mCentre n k z - |mSpan n k z| ≤ k / n ∧
    (k : ℝ) / n ≤ mCentre n k z + |mSpan n k z| ∧
    mCentre n k z + |mSpan n k z| ≤ 1 := by
  obtain ⟨hn', hk0, hkn⟩ := cast_dom hn hk
  simp only [mCentre, mSpan, wilsonCentre_val, wilsonSpan_val]
  have a := abs_span_le_centre n k z hn' hk0 hkn
  have b := centre_add_abs_span_le_one n k z hn' hk0 hkn
  have c := abs_le.mp (abs_centre_sub_le n k z hn' hk0 hkn)
  exact ⟨sub_nonneg.mpr a, sub_le_comm.mp c.2, neg_le_sub_iff_le_add.mp c.1, b⟩

/-- hence both returned bounds are in `[0, 1]` whatever the sign of `z` -/
theorem bounds_in_unit (n k : ℕ) (hn : 0 < n) (hk : k ≤ n) (z : ℝ) :
    0 ≤ mCentre n k z - mSpan n k z ∧ mCentre n k z - mSpan n k z ≤ 1 ∧
    0 ≤ mCentre n k z + mSpan n k z ∧ mCentre n k z + mSpan n k z ≤ 1 := by
  simp only [mCentre, mSpan, wilsonCentre_val, wilsonSpan_val]
  exact bounds_unit n k hn hk z

/-! ## 4. what `ciWilson` returns on its domain, per kind of confidence -/

/-- all kinds at once: on the domain, with `0 ≤ z` when two-sided, the result is `Ok` of the
    two-sided interval whose finite bounds are `centre ∓ span` and whose far end is `1` / `0` -/
theorem kinds (crit : Crit Rex) (conf : Confidence Rex) (h0 : 0 < conf.level.val)
    (h1 : conf.level.val < 1) (n k : ℕ) (hk : 2 ≤ k) (hkn : k + 2 ≤ n)
    (hz : conf.isTwoSided = true → 0 ≤ zOf crit conf) :
    ciWilson crit conf n k = .ok
      (match conf with
       | .twoSided _ => .twoSided ⟨mCentre n k (zOf crit conf) - mSpan n k (zOf crit conf)⟩
                                  ⟨mCentre n k (zOf crit conf) + mSpan n k (zOf crit conf)⟩
       | .upper _ => .twoSided ⟨mCentre n k (zOf crit conf) - mSpan n k (zOf crit conf)⟩ ⟨1⟩
       | .lower _ => .twoSided ⟨0⟩ ⟨mCentre n k (zOf crit conf) + mSpan n k (zOf crit conf)⟩) := by
  rw [ciWilson_rex crit conf n k hk hkn (probOk_quantile conf h0 h1),
    if_neg fun h => not_lt.mpr (hz h.1) h.2]
  simp only [mCentre, mSpan, wilsonCentre_val, wilsonSpan_val]
  cases conf <;> rfl

/-- the headline: on the domain the result is a two-sided interval `[lo, hi] ⊆ [0,1]`, `lo ≤ hi`,
    each bound is either the far end (`1` for upper, `0` for lower) or a root of the score equation -/
theorem ciWilson_spec (crit : Crit Rex) (conf : Confidence Rex) (h0 : 0 < conf.level.val)
    (h1 : conf.level.val < 1) (n k : ℕ) (hk : 2 ≤ k) (hkn : k + 2 ≤ n)
    (hz : conf.isTwoSided = true → 0 ≤ zOf crit conf) :
    ∃ lo hi : ℝ, ciWilson crit conf n k = .ok (.twoSided ⟨lo⟩ ⟨hi⟩) ∧
      0 ≤ lo ∧ lo ≤ hi ∧ hi ≤ 1 ∧
      (conf.isLower = true ∧ lo = 0 ∨ conf.isLower = false ∧
        (lo - k / n) ^ 2 = (zOf crit conf) ^ 2 * (lo * (1 - lo)) / n) ∧
      (conf.isUpper = true ∧ hi = 1 ∨ conf.isUpper = false ∧
        (hi - k / n) ^ 2 = (zOf crit conf) ^ 2 * (hi * (1 - hi)) / n) := by
  have hn : 0 < n := by omega
  have hkn' : k ≤ n := by omega
  have hk' := kinds crit conf h0 h1 n k hk hkn hz
  obtain ⟨b1, b2, b3, b4⟩ := bounds_in_unit n k hn hkn' (zOf crit conf)
  obtain ⟨r1, r2⟩ := score_root n k hn hkn' (zOf crit conf)
  cases conf with
  | twoSided l =>
    refine ⟨_, _, hk', b1, ?_, b4, Or.inr ⟨rfl, r1⟩, Or.inr ⟨rfl, r2⟩⟩
    have := span_nonneg n k _ (Nat.cast_pos.mpr hn) (hz rfl)
    rw [← wilsonSpan_val] at this
    linarith only [this]
  | upper l => exact ⟨_, _, hk', b1, b2, le_refl _, Or.inr ⟨rfl, r1⟩, Or.inl ⟨rfl, rfl⟩⟩
  | lower l => exact ⟨_, _, hk', le_refl _, b3, b4, Or.inl ⟨rfl, rfl⟩, Or.inr ⟨rfl, r2⟩⟩

/-- the guarantee of the clamp (`(mean - span).max(0.)`, `(mean + span).min(1.)`), on every carrier
    `RR fl` — the reals with an arbitrary function `fl` applied after every arithmetic operation,
    no hypothesis on `fl`; `fl = id` is `Rex` —, for every oracle, every confidence (valid or not)
    and all counts: an `Ok` result of `ciWilson` is a two-sided interval `[lo, hi]` with
    `0 ≤ lo ≤ hi ≤ 1` -/
theorem ciWilson_ok_in_unit {fl : ℝ → ℝ} (crit : Crit (RR fl)) (conf : Confidence (RR fl))
    (n k : ℕ) (iv : Interval (RR fl)) (h : ciWilson crit conf n k = .ok iv) :
    ∃ lo hi : RR fl, iv = .twoSided lo hi ∧ 0 ≤ lo.val ∧ lo.val ≤ hi.val ∧ hi.val ≤ 1 :=
  WilsonRound.ciWilson_ok_unit crit conf n k iv h

/-- non-vacuity of `ciWilson_ok_in_unit`: `Ok` results exist (exact arithmetic, `ciWilson_spec`) -/
example : ∃ iv, ciWilson (constCrit 1.96 : Crit Rex) (.twoSided ⟨0.95⟩) 100 30 = .ok iv := by
  obtain ⟨lo, hi, h, _⟩ := ciWilson_spec (constCrit 1.96) (.twoSided ⟨0.95⟩)
    (by norm_num [Confidence.level]) (by norm_num [Confidence.level]) 100 30 (by omega) (by omega)
    (fun _ => by norm_num [zOf, constCrit])
  exact ⟨_, h⟩

/-- non-vacuity: a valid two-sided confidence, counts on the domain, an oracle answering `z = 1.96` -/
example : ∃ (crit : Crit Rex) (conf : Confidence Rex) (n k : ℕ), 0 < conf.level.val ∧
    conf.level.val < 1 ∧ 2 ≤ k ∧ k + 2 ≤ n ∧ (conf.isTwoSided = true → 0 ≤ zOf crit conf) :=
  ⟨constCrit 1.96, .twoSided ⟨0.95⟩, 100, 30, by norm_num [Confidence.level],
    by norm_num [Confidence.level], by omega, by omega, fun _ => by norm_num [zOf, constCrit]⟩

/-- non-vacuity of the rejecting branch: an oracle answering `z = -1` -/
example : ∃ (crit : Crit Rex) (l : Rex), 0 < l.val ∧ l.val < 1 ∧ zOf crit (.twoSided l) < 0 :=
  ⟨constCrit (-1), ⟨0.95⟩, by norm_num, by norm_num, by norm_num [zOf, constCrit]⟩

/-! ## 5. the domain of `ciWilson` -/

/-- the count tests do not look at the confidence: for *every* confidence, valid or not -/
theorem count_errors_any_conf (crit : Crit Rex) (conf : Confidence Rex) (n k : ℕ) :
    (n < k → ciWilson crit conf n k = .err (.invalidSuccesses k n)) ∧
    (k ≤ n → k < 2 → ciWilson crit conf n k = .err (.tooFewSuccesses k n ⟨k⟩)) ∧
    (2 ≤ k → k ≤ n → n < k + 2 →
      ciWilson crit conf n k = .err (.tooFewFailures (n - k) n ⟨(n : ℝ) - k⟩)) := by
  rw [Proportion.ciWilson_eq]
  refine ⟨fun a => if_pos a, fun a b => ?_, fun a b c => ?_⟩
  · rw [if_neg (by omega), if_pos b]; rfl
  · rw [if_neg (by omega), if_neg (by omega), if_pos (by omega)]; rfl

/-- each outcome occurs exactly on its documented set of counts, and a valid confidence never
    panics.  The tests come in this order: `k > n` ⇒ `InvalidSuccesses`; else `k < 2` ⇒
    `TooFewSuccesses`; else `n - k < 2` ⇒ `TooFewFailures`; else (two-sided with a negative oracle
    answer) `InvalidBounds`; else `Ok`; no other error variant can occur -/
theorem domain_wilson (crit : Crit Rex) (conf : Confidence Rex) (h0 : 0 < conf.level.val)
    (h1 : conf.level.val < 1) (n k : ℕ) :
    (ciWilson crit conf n k = .err (.invalidSuccesses k n) ↔ n < k) ∧
    ((∃ w, ciWilson crit conf n k = .err (.tooFewSuccesses k n w)) ↔ k ≤ n ∧ k < 2) ∧
    (k ≤ n → k < 2 → ciWilson crit conf n k = .err (.tooFewSuccesses k n ⟨k⟩)) ∧
    ((∃ f w, ciWilson crit conf n k = .err (.tooFewFailures f n w)) ↔ 2 ≤ k ∧ k ≤ n ∧ n < k + 2) ∧
    (2 ≤ k → k ≤ n → n < k + 2 →
      ciWilson crit conf n k = .err (.tooFewFailures (n - k) n ⟨(n : ℝ) - k⟩)) ∧
    (ciWilson crit conf n k = .err (.interval .invalidBounds) ↔
      2 ≤ k ∧ k + 2 ≤ n ∧ conf.isTwoSided = true ∧ zOf crit conf < 0) ∧
    ((∃ i, ciWilson crit conf n k = .ok i) ↔
      2 ≤ k ∧ k + 2 ≤ n ∧ (conf.isTwoSided = true → 0 ≤ zOf crit conf)) ∧
    (∀ t, ciWilson crit conf n k ≠ .panic t) := by
  obtain ⟨e1, e2, e3⟩ := count_errors_any_conf crit conf n k
  -- in each case one outcome is the actual one (`iff_of_true`), the others differ from it by
  -- their constructor and their count condition contradicts the case's
  by_cases a : n < k
  · rw [e1 a]
    exact ⟨iff_of_true rfl a, iff_of_false (fun ⟨_, e⟩ => nomatch e) (by omega), by omega,
      iff_of_false (fun ⟨_, _, e⟩ => nomatch e) (by omega), by omega,
      iff_of_false (fun e => nomatch e) (by omega), iff_of_false (fun ⟨_, e⟩ => nomatch e) (by omega),
      fun _ e => nomatch e⟩
  by_cases b : k < 2
  · rw [e2 (by omega) b]
    exact ⟨iff_of_false (fun e => nomatch e) a, iff_of_true ⟨_, rfl⟩ ⟨by omega, b⟩, fun _ _ => rfl,
      iff_of_false (fun ⟨_, _, e⟩ => nomatch e) (by omega), by omega,
      iff_of_false (fun e => nomatch e) (by omega), iff_of_false (fun ⟨_, e⟩ => nomatch e) (by omega),
      fun _ e => nomatch e⟩
  by_cases c : n < k + 2
  · rw [e3 (by omega) (by omega) c]
    exact ⟨iff_of_false (fun e => nomatch e) a, iff_of_false (fun ⟨_, e⟩ => nomatch e) (by omega),
      by omega, iff_of_true ⟨_, _, rfl⟩ ⟨by omega, by omega, c⟩, fun _ _ _ => rfl,
      iff_of_false (fun e => nomatch e) (by omega), iff_of_false (fun ⟨_, e⟩ => nomatch e) (by omega),
      fun _ e => nomatch e⟩
  have hk : 2 ≤ k := by omega
  have hkn : k + 2 ≤ n := by omega
  rw [ciWilson_rex crit conf n k hk hkn (probOk_quantile conf h0 h1)]
  by_cases d : conf.isTwoSided = true ∧ zOf crit conf < 0
  · rw [if_pos d]
    exact ⟨iff_of_false (fun e => nomatch e) a, iff_of_false (fun ⟨_, e⟩ => nomatch e) (by omega),
      by omega, iff_of_false (fun ⟨_, _, e⟩ => nomatch e) (by omega), by omega,
      iff_of_true rfl ⟨hk, hkn, d⟩,
      iff_of_false (fun ⟨_, e⟩ => nomatch e) (fun ⟨_, _, hz⟩ => absurd (hz d.1) (not_le.mpr d.2)),
      fun _ e => nomatch e⟩
  · rw [if_neg d]
    exact ⟨iff_of_false (fun e => nomatch e) a, iff_of_false (fun ⟨_, e⟩ => nomatch e) (by omega),
      by omega, iff_of_false (fun ⟨_, _, e⟩ => nomatch e) (by omega), by omega,
      iff_of_false (fun e => nomatch e) (fun ⟨_, _, h⟩ => d h),
      iff_of_true ⟨_, rfl⟩ ⟨hk, hkn, fun h => not_lt.mp fun hz => d ⟨h, hz⟩⟩, fun _ e => nomatch e⟩

/-- what an *invalid* confidence (constructible through the public enum variants) does once the
    count tests are passed: `statrs` panics in `inverse_cdf` exactly when the probability
    `quantile()` is outside `[0, 1]`, i.e. level outside `[-1, 1]` (two-sided) or `[0, 1]`
    (one-sided); there is no other panic. The count errors of `count_errors_any_conf` come first and do
    not depend on the confidence at all. -/
theorem panic_iff (crit : Crit Rex) (conf : Confidence Rex) (n k : ℕ) (hk : 2 ≤ k)
    (hkn : k + 2 ≤ n) :
    (ciWilson crit conf n k = .panic "inverse_cdf" ↔ probOk conf.quantile = false) ∧
    (∀ t, ciWilson crit conf n k = .panic t → t = "inverse_cdf") ∧
    (probOk conf.quantile = true ↔
      (match conf with
       | .twoSided l => -1 ≤ l.val ∧ l.val ≤ 1
       | .upper l => 0 ≤ l.val ∧ l.val ≤ 1
       | .lower l => 0 ≤ l.val ∧ l.val ≤ 1)) := by
  rw [ciWilson_dom crit conf n k hk hkn]
  refine ⟨?_, fun t => ?_, probOk_quantile_iff conf⟩
  · cases probOk conf.quantile
    · exact iff_of_true rfl rfl
    · exact iff_of_false (WilsonRound.finishWilson_ne_panic conf _ _ _) Bool.noConfusion
  · cases probOk conf.quantile
    · exact fun h => (Outcome.panic.inj h).symm
    · exact fun h => absurd h (WilsonRound.finishWilson_ne_panic conf _ _ _)

example : ∃ conf : Confidence Rex, probOk conf.quantile = false :=
  ⟨.upper ⟨2⟩, by rw [Bool.eq_false_iff, Ne, probOk_quantile_iff]; norm_num⟩

/-- non-vacuity: the four count conditions of `domain_wilson` occur (in the last, both signs of `z`:
    the examples of §4) -/
example : ((5 : ℕ) < 7) ∧ ((1 : ℕ) ≤ 9 ∧ 1 < 2) ∧ (2 ≤ 8 ∧ 8 ≤ 9 ∧ 9 < 8 + 2) ∧ (2 ≤ 4 ∧ 4 + 2 ≤ 9) := by
  omega

/-! ## 6. the Wald variant `ciZNormal` -/

/-- `ci_z_normal` at exact arithmetic on its domain, every kind and every real critical value: the
    pair `k/n ∓ z·√((k/n)(1-k/n)/n)` (far end `1` / `0`) if `Interval::new` finds it ordered, else
    `InvalidBounds` — there is no clamp here, so a two-sided request answered by `z < 0`, an upper
    one with `k/n - z·sd > 1` and a lower one with `k/n + z·sd < 0` are rejected -/
theorem wald_eq (crit : Crit Rex) (conf : Confidence Rex) (h0 : 0 < conf.level.val)
    (h1 : conf.level.val < 1) (n k : ℕ) (hk : 10 ≤ k) (hkn : k + 10 ≤ n) :
    ciZNormal crit conf n k =
      if WilsonRound.finLo id conf.kind ((k : ℝ) / n) (zOf crit conf * Wilson.waldSd n k)
          ≤ WilsonRound.finHi id conf.kind ((k : ℝ) / n) (zOf crit conf * Wilson.waldSd n k) then
        .ok (.twoSided
          ⟨WilsonRound.finLo id conf.kind ((k : ℝ) / n) (zOf crit conf * Wilson.waldSd n k)⟩
          ⟨WilsonRound.finHi id conf.kind ((k : ℝ) / n) (zOf crit conf * Wilson.waldSd n k)⟩)
      else .err (.interval .invalidBounds) :=
  WilsonRound.ciZNormal_eq_fl crit conf n k (fun _ _ => rfl) hk hkn _
    (zValue_eq crit conf (probOk_quantile conf h0 h1))

/-- under `0 ≤ z` the Wald variant returns, on its domain, `k/n ∓ z·sd` with far ends `1` / `0` -/
theorem wald (crit : Crit Rex) (conf : Confidence Rex) (h0 : 0 < conf.level.val)
    (h1 : conf.level.val < 1) (n k : ℕ) (hk : 10 ≤ k) (hkn : k + 10 ≤ n)
    (hz : 0 ≤ zOf crit conf) :
    ciZNormal crit conf n k = .ok
      (match conf with
       | .twoSided _ => .twoSided ⟨(k : ℝ) / n - zOf crit conf * waldSd n k⟩
                                  ⟨(k : ℝ) / n + zOf crit conf * waldSd n k⟩
       | .upper _ => .twoSided ⟨(k : ℝ) / n - zOf crit conf * waldSd n k⟩ ⟨1⟩
       | .lower _ => .twoSided ⟨0⟩ ⟨(k : ℝ) / n + zOf crit conf * waldSd n k⟩) := by
  rw [wald_eq crit conf h0 h1 n k hk hkn, if_pos (WilsonRound.wald_ordered_exact _ n k hk hkn hz)]
  cases conf <;> rfl

/-- the domain of the Wald variant, in the order of its tests; the `f64` payloads are `n·p` and
    `n·q` with `p = k/n`, `q = 1 - p`; on the domain `10 ≤ k ∧ 10 ≤ n - k` the outcome is an
    interval or `InvalidBounds`, never a panic -/
theorem domain_wald (crit : Crit Rex) (conf : Confidence Rex) (h0 : 0 < conf.level.val)
    (h1 : conf.level.val < 1) (n k : ℕ) :
    (n < k ∧ ciZNormal crit conf n k = .err (.invalidSuccesses k n)) ∨
    (k ≤ n ∧ k < 10 ∧
      ciZNormal crit conf n k = .err (.tooFewSuccesses k n ⟨(n : ℝ) * ((k : ℝ) / n)⟩)) ∨
    (10 ≤ k ∧ k ≤ n ∧ n < k + 10 ∧
      ciZNormal crit conf n k
        = .err (.tooFewFailures (n - k) n ⟨(n : ℝ) * (1 - (k : ℝ) / n)⟩)) ∨
    (10 ≤ k ∧ k + 10 ≤ n ∧
      (ciZNormal crit conf n k = .err (.interval .invalidBounds) ∨
        ∃ lo hi, ciZNormal crit conf n k = .ok (.twoSided lo hi))) := by
  by_cases a : n < k
  · exact Or.inl ⟨a, by rw [Proportion.ciZNormal_eq, if_pos a]⟩
  by_cases b : k < 10
  · exact Or.inr (Or.inl ⟨by omega, b, by rw [Proportion.ciZNormal_eq, if_neg a, if_pos b]; rfl⟩)
  by_cases c : n - k < 10
  · exact Or.inr (Or.inr (Or.inl ⟨by omega, by omega, by omega,
      by rw [Proportion.ciZNormal_eq, if_neg a, if_neg b, if_pos c]; rfl⟩))
  right; right; right
  have hk : 10 ≤ k := by omega
  have hkn : k + 10 ≤ n := by omega
  refine ⟨hk, hkn, ?_⟩
  rw [wald_eq crit conf h0 h1 n k hk hkn]
  split
  · exact Or.inr ⟨_, _, rfl⟩
  · exact Or.inl rfl

/-- the documented conditions `n·p ≥ 10`, `n·q ≥ 10` (with `p = k/n`, `q = 1 - p` in exact
    arithmetic) are the integer tests `k ≥ 10`, `n - k ≥ 10` the code makes -/
theorem wald_np_nq (n k : ℕ) (hn : 0 < n) :
    (10 ≤ (n : ℝ) * ((k : ℝ) / n) ∧ 10 ≤ (n : ℝ) * (1 - (k : ℝ) / n)) ↔ (10 ≤ k ∧ k + 10 ≤ n) := by
  have hn' : (n : ℝ) ≠ 0 := Nat.cast_ne_zero.mpr hn.ne'
  rw [mul_sub, mul_one, mul_div_cancel₀ _ hn', le_sub_iff_add_le']
  norm_cast

example : ∃ (crit : Crit Rex) (conf : Confidence Rex) (n k : ℕ), 0 < conf.level.val ∧
    conf.level.val < 1 ∧ 10 ≤ k ∧ k + 10 ≤ n ∧ 0 ≤ zOf crit conf :=
  ⟨constCrit 1.96, .upper ⟨0.95⟩, 100, 30, by norm_num [Confidence.level],
    by norm_num [Confidence.level], by omega, by omega, by norm_num [zOf, constCrit]⟩

/-! ## 7. the front-ends return the interval of the counts they imply -/

section frontends
variable {W : Type} [Scalar W]

/-- collecting booleans counts the population and the `true`s -/
theorem fromList_eq (bs : List Bool) : Stats.fromList bs = ⟨bs.length, bs.count true⟩ := by
  simp [Stats.fromList, Stats.extend_eq, Stats.empty]

/-- collecting through a predicate counts the population and the elements satisfying it -/
theorem extendIf_empty_eq {T : Type} (xs : List T) (p : T → Bool) :
    Stats.empty.extendIf xs p = ⟨xs.length, xs.countP p⟩ := by
  simp [Stats.extendIf_eq, Stats.empty]

/-- `ci` is `ci_wilson` -/
theorem ci_eq (crit : Crit W) (conf : Confidence W) (n k : ℕ) :
    Proportion.ci crit conf n k = ciWilson crit conf n k := rfl

/-- `Stats::ci` -/
theorem stats_ci_eq (crit : Crit W) (conf : Confidence W) (s : Stats) :
    s.ci crit conf = ciWilson crit conf s.population s.successes := rfl

/-- `ci_true` -/
theorem ciTrue_eq (crit : Crit W) (conf : Confidence W) (bs : List Bool) :
    ciTrue crit conf bs = ciWilson crit conf bs.length (bs.count true) := by
  simp [ciTrue, fromList_eq, Stats.ci, Proportion.ci]

/-- `ci_if` -/
theorem ciIf_eq {T : Type} (crit : Crit W) (conf : Confidence W) (xs : List T) (p : T → Bool) :
    ciIf crit conf xs p = ciWilson crit conf xs.length (xs.countP p) := by
  simp [ciIf, extendIf_empty_eq, Stats.ci, Proportion.ci]

end frontends

/-- `ci_wilson_ratio`: a non-positive rate is `NonPositiveValue`; a positive rate `r` is the
    interval of the count `round(r·n)` -/
theorem ratio (crit : Crit Rex) (conf : Confidence Rex) (n : ℕ) (r : Rex) :
    (r.val ≤ 0 → ciWilsonRatio crit conf n r = .err (.nonPositiveValue r)) ∧
    (0 < r.val → ciWilsonRatio crit conf n r
      = ciWilson crit conf n (round (r.val * n)).toNat) := by
  rw [ciWilsonRatio_eq]
  exact ⟨fun h => if_pos ((RR.le_iff _ _).mpr h),
    fun h => if_neg fun hle => not_le.mpr h ((RR.le_iff _ _).mp hle)⟩

/-- in particular the rate `k/n` (exact division) gives back the interval of the counts `n, k` -/
theorem ratio_exact (crit : Crit Rex) (conf : Confidence Rex) (n k : ℕ) (hn : 0 < n) (hk : 0 < k) :
    ciWilsonRatio crit conf n ⟨(k : ℝ) / n⟩ = ciWilson crit conf n k := by
  have hn' : (0 : ℝ) < n := Nat.cast_pos.mpr hn
  have hk' : (0 : ℝ) < k := Nat.cast_pos.mpr hk
  rw [(ratio crit conf n ⟨(k : ℝ) / n⟩).2 (div_pos hk' hn')]
  have : (k : ℝ) / n * n = ((k : ℤ) : ℝ) := by
    rw [div_mul_cancel₀ _ hn'.ne']; norm_cast
  simp only [this, round_intCast, Int.toNat_natCast]

example : ∃ r : Rex, 0 < r.val := ⟨⟨0.3⟩, by norm_num⟩
example : ∃ r : Rex, r.val ≤ 0 := ⟨⟨0⟩, le_refl _⟩

/-! ## 8. the supplied `z` is recoverable from a Wilson interval (a claim of property C06, proved here) -/

/-- from the centre alone, unless `k = n/2` (then the centre is `1/2` for every `z`) -/
theorem z_of_wilson_centre (n k : ℕ) (hn : 0 < n) (z : ℝ) :
    (mCentre n k z = 1 / 2 ↔ 2 * k = n) ∧
    (2 * k ≠ n → z ^ 2 = (k - n * mCentre n k z) / (mCentre n k z - 1 / 2)) := by
  have hn' : (0 : ℝ) < n := Nat.cast_pos.mpr hn
  simp only [mCentre, wilsonCentre_val]
  have hiff : centre n k z = 1 / 2 ↔ 2 * k = n := by
    rw [centre_eq_half_iff (n : ℝ) k z hn']; norm_cast
  exact ⟨hiff, fun h => zsq_of_centre n k z hn' (fun hc => h (hiff.mp hc))⟩

/-- from either finite bound `p = centre ∓ span` when `0 < k < n`: the bound is neither `0` nor `1`
    (`p(1-p) ≠ 0`) and `z² = n (p - k/n)² / (p (1-p))`; with `z ≥ 0`,
    `z` itself is the square root of that -/
theorem z_of_wilson (n k : ℕ) (hk : 0 < k) (hkn : k < n) (z : ℝ) (p : ℝ)
    (hp : p = mCentre n k z - mSpan n k z ∨ p = mCentre n k z + mSpan n k z) :
    p * (1 - p) ≠ 0 ∧ z ^ 2 = n * (p - k / n) ^ 2 / (p * (1 - p)) ∧
    (0 ≤ z → z = Real.sqrt (n * (p - k / n) ^ 2 / (p * (1 - p)))) := by
  have hk' : (0 : ℝ) < k := Nat.cast_pos.mpr hk
  have hkn' : (k : ℝ) < n := Nat.cast_lt.mpr hkn
  simp only [mCentre, mSpan, wilsonCentre_val, wilsonSpan_val] at hp
  obtain ⟨h1, h2⟩ := zsq_of_root hk' hkn'
    ((Wilson.score_root_iff n k z p (hk'.trans hkn') hk'.le hkn'.le).mpr hp)
  exact ⟨h1, h2, fun hz => by rw [← h2, Real.sqrt_sq hz]⟩

example : (0 : ℕ) < 30 ∧ 30 < 100 := by omega

end StatsCI.C02
