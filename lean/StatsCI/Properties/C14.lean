/-
  C14 — Every interval obtained through a fallible constructor or conversion satisfies
  low <= high; inverted bounds are rejected with InvalidBounds and the doubly unbounded case with
  EmptyInterval. Accessors and conversions return exactly the stored bounds and round-trip. The kind
  predicates, is_degenerate and width are mutually consistent, copies compare equal, and equal
  intervals hash equally while intervals of different kinds with the same bound do not compare
  equal.

  Stated over the model functions of `StatsCI.Model.Interval`, with the comparison operations of an
  arbitrary linear order (and the arithmetic of an ordered ring where `width` is involved).
-/
import StatsCI.Lemmas.IntervalAlg

namespace StatsCI.C14
open StatsCI StatsCI.Interval

section accessors
variable {α : Type}

theorem accessors (lo hi : α) :
    (Interval.twoSided lo hi).left = some lo ∧ (Interval.twoSided lo hi).right = some hi ∧
    (Interval.twoSided lo hi).low = some lo ∧ (Interval.twoSided lo hi).high = some hi ∧
    (Interval.upper lo).left = some lo ∧ (Interval.upper lo).right = none ∧
    (Interval.upper lo).low = some lo ∧ (Interval.upper lo).high = none ∧
    (Interval.lower hi).left = none ∧ (Interval.lower hi).right = some hi ∧
    (Interval.lower hi).low = none ∧ (Interval.lower hi).high = some hi :=
  ⟨rfl, rfl, rfl, rfl, rfl, rfl, rfl, rfl, rfl, rfl, rfl, rfl⟩

theorem toOptPair_eq (i : Interval α) : i.toOptPair = (i.left, i.right) := by
  cases i <;> rfl

theorem low_high_eq (i : Interval α) : i.low = i.left ∧ i.high = i.right := ⟨rfl, rfl⟩

theorem rangeBounds (lo hi : α) :
    (Interval.twoSided lo hi).startBound = .included lo ∧
    (Interval.twoSided lo hi).endBound = .included hi ∧
    (Interval.upper lo).startBound = .included lo ∧ (Interval.upper lo).endBound = .unbounded ∧
    (Interval.lower hi).startBound = .unbounded ∧ (Interval.lower hi).endBound = .included hi :=
  ⟨rfl, rfl, rfl, rfl, rfl, rfl⟩

section extremes
variable [Extremes α]

theorem accessors_extremes (lo hi : α) :
    (Interval.twoSided lo hi).lowX = lo ∧ (Interval.twoSided lo hi).highX = hi ∧
    (Interval.upper lo).lowX = lo ∧ (Interval.upper lo).highX = Extremes.maxValue ∧
    (Interval.lower hi).lowX = Extremes.minValue ∧ (Interval.lower hi).highX = hi ∧
    (Interval.twoSided lo hi).toPair = (lo, hi) ∧
    (Interval.upper lo).toPair = (lo, Extremes.maxValue) ∧
    (Interval.lower hi).toPair = (Extremes.minValue, hi) :=
  ⟨rfl, rfl, rfl, rfl, rfl, rfl, rfl, rfl, rfl⟩

theorem toPair_eq (i : Interval α) :
    i.toPair = (i.lowX, i.highX) ∧ (∀ x, i.left = some x → i.lowX = x) ∧
    (∀ x, i.right = some x → i.highX = x) := by
  cases i <;> simp [toPair, lowX, highX, left, right]

end extremes

theorem kind_exclusive (i : Interval α) :
    (i.isTwoSided = true ∧ i.isUpper = false ∧ i.isLower = false) ∨
    (i.isTwoSided = false ∧ i.isUpper = true ∧ i.isLower = false) ∨
    (i.isTwoSided = false ∧ i.isUpper = false ∧ i.isLower = true) := by
  cases i <;> simp [isTwoSided, isUpper, isLower]

theorem kind_iff (i : Interval α) :
    (i.isTwoSided = true ↔ ∃ lo hi, i = .twoSided lo hi) ∧
    (i.isUpper = true ↔ ∃ lo, i = .upper lo) ∧
    (i.isLower = true ↔ ∃ hi, i = .lower hi) := by
  cases i <;>
    simp only [isTwoSided, isUpper, isLower, reduceCtorEq, Bool.false_eq_true, exists_false,
      twoSided.injEq, upper.injEq, lower.injEq, exists_and_left, exists_eq', and_true, and_self]

theorem isOneSided_eq (i : Interval α) :
    i.isOneSided = !i.isTwoSided ∧ i.isOneSided = (i.isUpper || i.isLower) := by
  cases i <;> simp [isOneSided, isTwoSided, isUpper, isLower]

theorem kind_bounds (i : Interval α) :
    (i.isTwoSided = true ↔ i.left.isSome = true ∧ i.right.isSome = true) ∧
    (i.isUpper = true ↔ i.left.isSome = true ∧ i.right = none) ∧
    (i.isLower = true ↔ i.left = none ∧ i.right.isSome = true) := by
  cases i <;> simp [isTwoSided, isUpper, isLower, left, right]

theorem hashSeq_inj (i j : Interval α) : i.hashSeq = j.hashSeq ↔ i = j := by
  refine ⟨fun h => ?_, fun h => h ▸ rfl⟩
  cases i <;> cases j <;> cases h <;> rfl

theorem hash_diff_kind (i j : Interval α)
    (h : i.isTwoSided ≠ j.isTwoSided ∨ i.isUpper ≠ j.isUpper ∨ i.isLower ≠ j.isLower) :
    i.hashSeq ≠ j.hashSeq :=
  fun e => ne_of_kind_ne h ((hashSeq_inj i j).mp e)

end accessors

section constructors
variable {α : Type} [LinearOrder α]
attribute [local instance] Cmp.ofLinearOrder

theorem new_ok_iff (lo hi : α) (i : Interval α) :
    Interval.new lo hi = .ok i ↔ lo ≤ hi ∧ i = .twoSided lo hi := by
  simp only [Interval.new, gt_iff', ite_eq_iff, reduceCtorEq, and_false, false_or, Except.ok.injEq,
    not_lt, eq_comm (a := i)]

theorem new_error_iff (lo hi : α) (e : IntervalError) :
    Interval.new lo hi = .error e ↔ hi < lo ∧ e = .invalidBounds := by
  simp only [Interval.new, gt_iff', ite_eq_iff, reduceCtorEq, and_false, or_false,
    Except.error.injEq, eq_comm (a := e)]

theorem new_invalid (lo hi : α) (h : hi < lo) : Interval.new lo hi = .error .invalidBounds :=
  (new_error_iff lo hi _).mpr ⟨h, rfl⟩

theorem constructors_agree (lo hi : α) :
    tryFromPair (lo, hi) = Interval.new lo hi ∧
    tryFromRangeInclusive lo hi = Interval.new lo hi ∧
    tryFromOptPair (some lo, some hi) = Interval.new lo hi := by
  refine ⟨?_, rfl, rfl⟩
  simp only [tryFromPair, cmp_le_iff, ite_eq_left_iff, not_le]
  exact fun h => (new_invalid lo hi h).symm

theorem tryFromPair_ok_iff (lo hi : α) (i : Interval α) :
    tryFromPair (lo, hi) = .ok i ↔ lo ≤ hi ∧ i = .twoSided lo hi := by
  rw [(constructors_agree lo hi).1]
  exact new_ok_iff lo hi i

theorem tryFromPair_error_iff (lo hi : α) (e : IntervalError) :
    tryFromPair (lo, hi) = .error e ↔ hi < lo ∧ e = .invalidBounds := by
  rw [(constructors_agree lo hi).1]
  exact new_error_iff lo hi e

theorem tryFromPair_invalid (lo hi : α) (h : hi < lo) :
    tryFromPair (lo, hi) = .error .invalidBounds :=
  (tryFromPair_error_iff lo hi _).mpr ⟨h, rfl⟩

theorem tryFromRangeInclusive_ok_iff (lo hi : α) (i : Interval α) :
    tryFromRangeInclusive lo hi = .ok i ↔ lo ≤ hi ∧ i = .twoSided lo hi :=
  new_ok_iff lo hi i

theorem tryFromRangeInclusive_error_iff (lo hi : α) (e : IntervalError) :
    tryFromRangeInclusive lo hi = .error e ↔ hi < lo ∧ e = .invalidBounds :=
  new_error_iff lo hi e

theorem tryFromRangeInclusive_invalid (lo hi : α) (h : hi < lo) :
    tryFromRangeInclusive lo hi = .error .invalidBounds :=
  new_invalid lo hi h

theorem tryFromOptPair_some_some_ok_iff (lo hi : α) (i : Interval α) :
    tryFromOptPair (some lo, some hi) = .ok i ↔ lo ≤ hi ∧ i = .twoSided lo hi :=
  new_ok_iff lo hi i

theorem tryFromOptPair_some_some_error_iff (lo hi : α) (e : IntervalError) :
    tryFromOptPair (some lo, some hi) = .error e ↔ hi < lo ∧ e = .invalidBounds :=
  new_error_iff lo hi e

theorem tryFromOptPair_invalid (lo hi : α) (h : hi < lo) :
    tryFromOptPair (some lo, some hi) = .error .invalidBounds :=
  new_invalid lo hi h

theorem tryFromOptPair_none_none :
    tryFromOptPair ((none, none) : Option α × Option α) = .error .emptyInterval := rfl

theorem tryFromOptPair_emptyInterval_iff (p : Option α × Option α) :
    tryFromOptPair p = .error .emptyInterval ↔ p = (none, none) := by
  refine ⟨fun h => ?_, fun h => h ▸ rfl⟩
  obtain ⟨_ | lo, _ | hi⟩ := p
  · rfl
  · cases h
  · cases h
  · cases ((new_error_iff lo hi _).mp h).2

theorem oneSided_total (x : α) :
    newUpper x = .upper x ∧ newLower x = .lower x ∧
    fromRangeFrom x = .upper x ∧ fromRangeToInclusive x = .lower x ∧
    tryFromOptPair (some x, none) = .ok (.upper x) ∧
    tryFromOptPair (none, some x) = .ok (.lower x) :=
  ⟨rfl, rfl, rfl, rfl, rfl, rfl⟩

theorem tryFromOptPair_ok_iff (p : Option α × Option α) (i : Interval α) :
    tryFromOptPair p = .ok i ↔ i.toOptPair = p ∧ i.WF := by
  constructor
  · intro h
    obtain ⟨_ | a, _ | b⟩ := p
    · cases h
    · cases h; exact ⟨rfl, trivial⟩
    · cases h; exact ⟨rfl, trivial⟩
    · obtain ⟨h1, rfl⟩ := (new_ok_iff a b i).mp h
      exact ⟨rfl, h1⟩
  · rintro ⟨rfl, hi⟩
    cases i with
    | twoSided lo hi' => exact (new_ok_iff lo hi' _).mpr ⟨hi, rfl⟩
    | upper lo => rfl
    | lower hi' => rfl

theorem ok_WF (lo hi : α) (p : Option α × Option α) (i : Interval α)
    (h : Interval.new lo hi = .ok i ∨ tryFromPair (lo, hi) = .ok i ∨
      tryFromRangeInclusive lo hi = .ok i ∨ tryFromOptPair p = .ok i) : i.WF := by
  obtain ⟨e1, e2, _⟩ := constructors_agree lo hi
  rw [e1, e2, or_self_left, or_self_left] at h
  rcases h with h | h
  · obtain ⟨h1, rfl⟩ := (new_ok_iff _ _ _).mp h
    exact h1
  · exact ((tryFromOptPair_ok_iff p i).mp h).2

theorem oneSided_WF (x : α) :
    (newUpper x).WF ∧ (newLower x).WF ∧ (fromRangeFrom x).WF ∧ (fromRangeToInclusive x).WF :=
  ⟨trivial, trivial, trivial, trivial⟩

theorem roundtrip_optPair' (p : Option α × Option α) (i : Interval α)
    (h : tryFromOptPair p = .ok i) : i.toOptPair = p :=
  ((tryFromOptPair_ok_iff p i).mp h).1

theorem roundtrip_optPair_iff (i : Interval α) : tryFromOptPair i.toOptPair = .ok i ↔ i.WF :=
  (tryFromOptPair_ok_iff _ i).trans (and_iff_right rfl)

theorem roundtrip_optPair (i : Interval α) (hi : i.WF) : tryFromOptPair i.toOptPair = .ok i :=
  (roundtrip_optPair_iff i).mpr hi

theorem accessors_new (lo hi : α) (i : Interval α) (h : Interval.new lo hi = .ok i) :
    i.left = some lo ∧ i.right = some hi := by
  obtain ⟨_, rfl⟩ := (new_ok_iff _ _ _).mp h; exact ⟨rfl, rfl⟩

section extremes
variable [Extremes α]

theorem roundtrip_pair (lo hi : α) (h : lo ≤ hi) :
    tryFromPair (Interval.twoSided lo hi).toPair = .ok (.twoSided lo hi) ∧
    ∀ i, tryFromPair (lo, hi) = .ok i → i.toPair = (lo, hi) := by
  refine ⟨(tryFromPair_ok_iff lo hi _).mpr ⟨h, rfl⟩, ?_⟩
  intro i hi'
  obtain ⟨_, rfl⟩ := (tryFromPair_ok_iff _ _ _).mp hi'; rfl

/-- the `(T, T)` round trip of a one-sided interval does NOT return it: the stand-in for the
    missing side becomes a stored bound (recorded behaviour, not a defect of the model) -/
theorem roundtrip_pair_oneSided (x : α) (i : Interval α) :
    (tryFromPair (Interval.upper x).toPair = .ok i → i = .twoSided x Extremes.maxValue) ∧
    (tryFromPair (Interval.lower x).toPair = .ok i → i = .twoSided Extremes.minValue x) := by
  constructor <;> intro h
  · exact ((tryFromPair_ok_iff _ _ _).mp h).2
  · exact ((tryFromPair_ok_iff _ _ _).mp h).2

end extremes

theorem isDegenerate_iff (i : Interval α) : i.isDegenerate = true ↔ ∃ x, i = .twoSided x x := by
  cases i with
  | twoSided lo hi =>
    simp only [isDegenerate, cmp_eq_iff, twoSided.injEq]
    constructor
    · rintro rfl; exact ⟨lo, rfl, rfl⟩
    · rintro ⟨x, rfl, rfl⟩; rfl
  | upper lo => simp [isDegenerate]
  | lower hi => simp [isDegenerate]

theorem isDegenerate_den (i : Interval α) (h : i.isDegenerate = true) :
    i.isTwoSided = true ∧ i.WF ∧ ∃ x, i.den = {x} := by
  obtain ⟨x, rfl⟩ := (isDegenerate_iff i).mp h
  exact ⟨rfl, le_refl x, x, Set.Icc_self x⟩

theorem hash_of_beq (i j : Interval α) (h : i.beq j = true) : i.hashSeq = j.hashSeq := by
  rw [(Interval.beq_iff_eq i j).mp h]

theorem beq_diff_kind (i j : Interval α)
    (h : i.isTwoSided ≠ j.isTwoSided ∨ i.isUpper ≠ j.isUpper ∨ i.isLower ≠ j.isLower) :
    i.beq j = false := by
  rw [Bool.eq_false_iff, ne_eq, Interval.beq_iff_eq]
  exact ne_of_kind_ne h

theorem beq_diff_kind_same_bound (x y : α) :
    (Interval.upper x).beq (.lower x) = false ∧ (Interval.lower x).beq (.upper x) = false ∧
    (Interval.twoSided x y).beq (.upper x) = false ∧ (Interval.twoSided x y).beq (.lower y) = false ∧
    (Interval.upper x).beq (.twoSided x y) = false ∧ (Interval.lower y).beq (.twoSided x y) = false ∧
    (Interval.twoSided x x).beq (.upper x) = false ∧ (Interval.twoSided x x).beq (.lower x) = false :=
  ⟨rfl, rfl, rfl, rfl, rfl, rfl, rfl, rfl⟩

theorem clone_eq (i : Interval α) :
    i.clone = i ∧ i.clone.beq i = true ∧ i.beq i.clone = true := by
  have h : i.clone = i := by cases i <;> rfl
  rw [h]; exact ⟨rfl, (Interval.beq_iff_eq i i).mpr rfl, (Interval.beq_iff_eq i i).mpr rfl⟩

theorem beq_equiv (i j k : Interval α) :
    i.beq i = true ∧ (i.beq j = j.beq i) ∧ (i.beq j = true → j.beq k = true → i.beq k = true) := by
  refine ⟨(Interval.beq_iff_eq i i).mpr rfl, ?_, ?_⟩
  · rw [Bool.eq_iff_iff, Interval.beq_iff_eq, Interval.beq_iff_eq, eq_comm]
  · intro h1 h2; rw [Interval.beq_iff_eq] at *; exact h1.trans h2

end constructors

section width
variable {α : Type} [CommRing α] [LinearOrder α] [IsStrictOrderedRing α]
attribute [local instance] NumOps.ofRing

theorem width_twoSided (lo hi : α) : (Interval.twoSided lo hi).width = some (hi - lo) := rfl

theorem width_none_iff (i : Interval α) : i.width = none ↔ i.isOneSided = true := by
  cases i <;> simp [width, isOneSided, isTwoSided]

theorem width_isSome_iff (i : Interval α) : i.width.isSome = true ↔ i.isTwoSided = true := by
  cases i <;> simp [width, isTwoSided]

theorem isDegenerate_iff_width (i : Interval α) :
    i.isDegenerate = true ↔ i.isTwoSided = true ∧ i.width = some 0 := by
  cases i with
  | twoSided lo hi =>
    simp only [isDegenerate, cmp_eq_iff, isTwoSided, width, ofRing_sub, Option.some.injEq,
      true_and]
    constructor
    · rintro rfl; exact sub_self _
    · intro h; exact (sub_eq_zero.mp h).symm
  | upper lo => simp [isDegenerate, isTwoSided]
  | lower hi => simp [isDegenerate, isTwoSided]

theorem width_nonneg (i : Interval α) (w : α) (hw : i.width = some w) : i.WF ↔ 0 ≤ w := by
  cases i <;> cases hw
  exact sub_nonneg.symm

theorem width_pos_iff (lo hi : α) (w : α) (hw : (Interval.twoSided lo hi).width = some w) :
    0 < w ↔ lo < hi := by
  cases hw
  exact sub_pos

end width

section examples
attribute [local instance] Cmp.ofLinearOrder

example : Interval.new (1 : ℤ) 3 = .ok (.twoSided 1 3) ∧
    Interval.new (3 : ℤ) 1 = .error .invalidBounds ∧
    Interval.new (2 : ℤ) 2 = .ok (.twoSided 2 2) ∧
    tryFromPair ((3 : ℤ), 1) = .error .invalidBounds ∧
    tryFromOptPair ((none, none) : Option ℤ × Option ℤ) = .error .emptyInterval ∧
    tryFromOptPair (some (1 : ℤ), none) = .ok (.upper 1) := by
  refine ⟨by decide, by decide, by decide, by decide, by decide, by decide⟩

example : (Interval.twoSided (1 : ℤ) 3).WF ∧ (Interval.twoSided (2 : ℤ) 2).isDegenerate = true ∧
    (Interval.upper (2 : ℤ)).beq (.lower 2) = false ∧
    (Interval.upper (2 : ℤ)).hashSeq ≠ (Interval.lower (2 : ℤ)).hashSeq := by
  refine ⟨by simp, by decide, by decide, by decide⟩

attribute [local instance] NumOps.ofRing in
example : (Interval.twoSided (1 : ℤ) 3).width = some 2 ∧ (Interval.upper (1 : ℤ)).width = none := by
  refine ⟨by decide, by decide⟩

end examples
end StatsCI.C14
