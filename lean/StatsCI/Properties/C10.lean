/-
  C10 — Coherence of every interval producer across confidence kinds and levels.

  Producers: `Arith.ciMean`, `Paired.ciMean`, `Unpaired.ciMean`, `Geometric.ciMean`,
  `Harmonic.ciMean`, `Proportion.ciWilson`, `Proportion.ciZNormal`, `Quantile.ciIndices`
  (the model functions themselves). Unless a theorem says "any carrier", the setting is exact real
  arithmetic `Rex = RR id`, with the external quantile routine `crit : Crit Rex` a parameter.

  What is assumed about `crit` is always an explicit hypothesis (`Lemmas/Coherence.lean`):
  * `CritMono crit`: `p ≤ q → crit (.t dof p) ≤ crit (.t dof q)` for every `dof`, and the same for `.z`;
  * `CritHalf crit`: `crit (.t dof ⟨1/2⟩) = 0` for every `dof`, and `crit (.z ⟨1/2⟩) = 0`;
  that `crit` depends on its argument only through `.val` is automatic (`RR.ext'`).
  `linCrit` (`p ↦ p − 1/2`) satisfies both (non-vacuity).

  Vocabulary: `KindMatch`, `PropKindMatch` are read off by `kindMatch_def`, `propKindMatch_def`;
  `crit (critReq conf dof)` is the critical value the common tail requests (Student-t below the
  population limit, else normal), `crit (.z conf.quantile)` the normal one;
  `PosBounds J`: every finite bound of the reciprocal-space interval `J` is `> 0` (there the model's
  `Harmonic.recipBound r` is `1/r`; elsewhere it is `+∞`, which `Rex` does not represent).

  Summary of what holds with *fewer* hypotheses than the informal property asks for:
  * items 1, 2 hold for every real `L` (not only `1/2 < L < 1`), every state, every oracle (for the
    quantile ranks `1/2 < L < 1` is used);
  * nesting (item 3) needs of `crit` only `CritMono` — no sign condition on the critical value: both
    bounds are monotone in it over all of ℝ (mean type: half-width `c·sem` with `sem ≥ 0`; Wilson:
    `WilsonMono.lowerR_anti`, `WilsonMono.upperR_mono`);
  * a two-sided interval that is returned contains the point estimate whatever `crit` is; only the
    one-sided kinds need `c ≥ 0` (which follows from `CritMono`, `CritHalf` and `L ≥ 1/2`).
-/
import StatsCI.Lemmas.Coherence
import StatsCI.Properties.C03

namespace StatsCI.C10
open StatsCI NumOps Scalar Proportion QSpec Coherence MeanLemmas WilsonMono

/-! ## 0. vocabulary -/

theorem kindMatch_def {W α : Type} (conf : Confidence W) (I : Interval α) :
    KindMatch conf I ↔
      match conf with
      | .twoSided _ => ∃ lo hi, I = .twoSided lo hi
      | .upper _ => ∃ lo, I = .upper lo
      | .lower _ => ∃ hi, I = .lower hi := by
  cases conf <;> rfl

theorem propKindMatch_def {W α : Type} [NumOps α] (conf : Confidence W) (I : Interval α) :
    PropKindMatch conf I ↔
      match conf with
      | .twoSided _ => ∃ lo hi, I = .twoSided lo hi
      | .upper _ => ∃ lo, I = .twoSided lo (one : α)
      | .lower _ => ∃ hi, I = .twoSided (zero : α) hi := by
  cases conf <;> rfl

theorem crit_mono_of_level {crit : Crit Rex} (hm : CritMono crit) (c₁ c₂ : Confidence Rex)
    (hk : c₁.kind = c₂.kind) (hl : c₁.level.val ≤ c₂.level.val) :
    (∀ dof : Rex, (crit (critReq c₁ dof)).val ≤ (crit (critReq c₂ dof)).val) ∧
    (crit (.z c₁.quantile)).val ≤ (crit (.z c₂.quantile)).val :=
  ⟨cOf_mono hm hk hl, zOf_mono hm hk hl⟩

/-! ## 1. the one-sided confidence at `L` and the two-sided one at `2L − 1` ask the same question -/

/-- by `quantile_two` all three ask for the probability `L`: the same request is made to the
    external routine, at every `dof` -/
theorem critReq_one_vs_two (L : ℝ) (dof : Rex) :
    critReq (.upper ⟨L⟩) dof = critReq (.twoSided ⟨2 * L - 1⟩) dof ∧
    critReq (.lower ⟨L⟩) dof = critReq (.twoSided ⟨2 * L - 1⟩) dof :=
  ⟨critReq_congr (.upper ⟨L⟩) _ (quantile_two L).symm dof,
    critReq_congr (.lower ⟨L⟩) _ (quantile_two L).symm dof⟩

/-- and `z_value`, `t_value`, `interval_bounds` coincide (value, error or panic alike) -/
theorem intervalBounds_one_vs_two (crit : Crit Rex) (L : ℝ) (m s dof : Rex) :
    zValue crit (.upper ⟨L⟩) = zValue crit (.twoSided ⟨2 * L - 1⟩) ∧
    tValue crit (.upper ⟨L⟩) dof = tValue crit (.twoSided ⟨2 * L - 1⟩) dof ∧
    intervalBounds crit (.upper ⟨L⟩) m s dof = intervalBounds crit (.twoSided ⟨2 * L - 1⟩) m s dof ∧
    intervalBounds crit (.lower ⟨L⟩) m s dof = intervalBounds crit (.twoSided ⟨2 * L - 1⟩) m s dof := by
  have hq : (⟨L⟩ : Rex) = (Confidence.twoSided ⟨2 * L - 1⟩).quantile := (quantile_two L).symm
  refine ⟨?_, ?_, intervalBounds_congr crit (.upper ⟨L⟩) _ hq m s dof,
    intervalBounds_congr crit (.lower ⟨L⟩) _ hq m s dof⟩
  · unfold zValue; rw [quantile_two]; rfl
  · unfold tValue; rw [quantile_two]; rfl

/-! ## 5. the kind of the result is the kind of the confidence (any carrier) -/

section kinds
variable {F W : Type} [Scalar F] [Scalar W] [Widen F W]

/-- arithmetic, paired, unpaired, geometric, harmonic: two-sided ↦ `.twoSided`, upper one-sided ↦
    `.upper` (bounded below only), lower one-sided ↦ `.lower` (bounded above only) -/
theorem kind_arith (crit : Crit W) (a : Arith F) (conf : Confidence W) (I : Interval F)
    (h : a.ciMean crit conf = .ok I) : KindMatch conf I := (finish_kindForm crit _).kind conf I h

theorem kind_paired (crit : Crit W) (p : Paired F) (conf : Confidence W) (I : Interval F)
    (h : p.ciMean crit conf = .ok I) : KindMatch conf I := (finish_kindForm crit _).kind conf I h

theorem kind_unpaired (crit : Crit W) (u : Unpaired F) (conf : Confidence W) (I : Interval F)
    (h : u.ciMean crit conf = .ok I) : KindMatch conf I := (finish_kindForm crit _).kind conf I h

theorem kind_geometric (crit : Crit W) (g : Geometric F) (conf : Confidence W) (I : Interval F)
    (h : g.ciMean crit conf = .ok I) : KindMatch conf I := (Geometric.kindForm crit g).kind conf I h

theorem kind_harmonic (crit : Crit W) (g : Harmonic F) (conf : Confidence W) (I : Interval F)
    (h : g.ciMean crit conf = .ok I) : KindMatch conf I := (Harmonic.kindForm crit g).kind conf I h

theorem kind_quantile (crit : Crit W) (conf : Confidence W) (n : ℕ) (q : W) (I : Interval ℕ)
    (h : Quantile.ciIndices crit conf n q = .ok I) : KindMatch conf I := by
  obtain ⟨_, _, pci, _, _, _, lo, _, hi, _, _, rfl⟩ := Quantile.ciIndices_eq_ok_iff.mp h
  exact kindMatch_shapeOf conf lo hi

/-- proportions: always `.twoSided`, with far end exactly `1` (upper) resp. `0` (lower) -/
theorem kind_wilson (crit : Crit W) (conf : Confidence W) (n k : ℕ) (I : Interval W)
    (h : ciWilson crit conf n k = .ok I) : PropKindMatch conf I := by
  have hf := (ciWilson_eq_ok_iff.mp h).2.2.2.2
  cases conf
  · exact ⟨_, _, (liftI_new_eq_ok_iff.mp hf).2⟩
  · exact ⟨_, (liftI_new_eq_ok_iff.mp hf).2⟩
  · exact ⟨_, (liftI_new_eq_ok_iff.mp hf).2⟩

theorem kind_wald (crit : Crit W) (conf : Confidence W) (n k : ℕ) (I : Interval W)
    (h : ciZNormal crit conf n k = .ok I) : PropKindMatch conf I := by
  have hf := (ciZNormal_eq_ok_iff.mp h).2.2.2.2
  cases conf
  · exact ⟨_, _, (liftI_new_eq_ok_iff.mp hf).2⟩
  · exact ⟨_, (liftI_new_eq_ok_iff.mp hf).2⟩
  · exact ⟨_, (liftI_new_eq_ok_iff.mp hf).2⟩

end kinds

/-! ## 2. the finite bound of the one-sided interval at `L` is the bound of the two-sided one at `2L − 1` -/

/-- what the common-bounds form (`one_vs_two_carrier`, `one_vs_two_paired_bounds` below) entails,
    stated once: the two-sided result determines both one-sided results; the one-sided results
    determine the two-sided outcome (which additionally passes `Interval::new`); one one-sided call
    succeeds iff the other does; errors and panics are shared -/
theorem one_vs_two_of_bounds {W α : Type} [Cmp α] (B : Outcome (Err W) (α × α))
    (two up low : Outcome (Err W) (Interval α))
    (h2 : two = B.bind (fun b => liftI (Interval.new b.1 b.2)))
    (hu : up = B.map (fun b => Interval.upper b.1))
    (hl : low = B.map (fun b => Interval.lower b.2)) :
    (∀ lo hi, two = .ok (.twoSided lo hi) → up = .ok (.upper lo) ∧ low = .ok (.lower hi)) ∧
    (∀ lo hi, up = .ok (.upper lo) → low = .ok (.lower hi) →
      two = liftI (Interval.new lo hi)) ∧
    (∀ lo, up = .ok (.upper lo) → ∃ hi, low = .ok (.lower hi)) ∧
    (∀ hi, low = .ok (.lower hi) → ∃ lo, up = .ok (.upper lo)) ∧
    (∀ e, up = .err e ↔ low = .err e) ∧ (∀ e, up = .err e → two = .err e) ∧
    (∀ t, up = .panic t ↔ low = .panic t) ∧ (∀ t, up = .panic t → two = .panic t) := by
  subst h2 hu hl
  refine ⟨fun lo hi h => ?_, fun lo hi h1 h2 => ?_, fun lo h => ?_, fun hi h => ?_,
    fun e => Outcome.map_eq_err_iff.trans Outcome.map_eq_err_iff.symm,
    fun e h => by rw [Outcome.map_eq_err_iff.mp h]; rfl,
    fun t => Outcome.map_eq_panic_iff.trans Outcome.map_eq_panic_iff.symm,
    fun t h => by rw [Outcome.map_eq_panic_iff.mp h]; rfl⟩
  · obtain ⟨b, rfl, hb⟩ := Outcome.bind_eq_ok_iff.mp h
    injection (liftI_new_eq_ok_iff.mp hb).2 with h1 h2
    subst h1 h2
    exact ⟨rfl, rfl⟩
  · obtain ⟨b, rfl, hb⟩ := Outcome.map_eq_ok_iff.mp h1
    cases hb; cases h2; rfl
  · obtain ⟨b, rfl, _⟩ := Outcome.map_eq_ok_iff.mp h
    exact ⟨b.2, rfl⟩
  · obtain ⟨b, rfl, _⟩ := Outcome.map_eq_ok_iff.mp h
    exact ⟨b.1, rfl⟩

/-- **Arithmetic, any carrier.** Whenever the one-sided level `l` is the probability the two-sided
    level `l₂` asks for, the three calls compute one and the same pair of bounds `B` (or fail in the
    same way): two-sided passes it to `Interval::new`, upper keeps the first component, lower the
    second. The same for `Unpaired`. -/
theorem one_vs_two_carrier {F W : Type} [Scalar F] [Scalar W] [Widen F W] (crit : Crit W)
    (l l₂ : W) (hq : l = (Confidence.twoSided l₂).quantile) (a : Arith F) (u : Unpaired F) :
    (∃ B : Outcome (Err W) (F × F),
      a.ciMean crit (.twoSided l₂) = B.bind (fun b => liftI (Interval.new b.1 b.2)) ∧
      a.ciMean crit (.upper l) = B.map (fun b => Interval.upper b.1) ∧
      a.ciMean crit (.lower l) = B.map (fun b => Interval.lower b.2)) ∧
    (∃ B : Outcome (Err W) (F × F),
      u.ciMean crit (.twoSided l₂) = B.bind (fun b => liftI (Interval.new b.1 b.2)) ∧
      u.ciMean crit (.upper l) = B.map (fun b => Interval.upper b.1) ∧
      u.ciMean crit (.lower l) = B.map (fun b => Interval.lower b.2)) :=
  ⟨finish_one_vs_two crit l l₂ hq _, finish_one_vs_two crit l l₂ hq _⟩

/-- **The common tail** at `Rex`, every `L`, every preparation: the two-sided bounds at `2L − 1`
    are the one-sided bounds at `L`, and conversely the one-sided results give the two-sided outcome
    `Interval::new lo hi` -/
theorem one_vs_two_finish (crit : Crit Rex) (L : ℝ) (P : Outcome (Err Rex) (Arith.Prep Rex)) :
    (∀ lo hi : Rex, MeanLemmas.finish crit (.twoSided ⟨2 * L - 1⟩) P = .ok (.twoSided lo hi) →
      MeanLemmas.finish crit (.upper ⟨L⟩) P = .ok (.upper lo) ∧
      MeanLemmas.finish crit (.lower ⟨L⟩) P = .ok (.lower hi)) ∧
    (∀ lo hi : Rex, MeanLemmas.finish crit (.upper ⟨L⟩) P = .ok (.upper lo) →
      MeanLemmas.finish crit (.lower ⟨L⟩) P = .ok (.lower hi) →
      MeanLemmas.finish crit (.twoSided ⟨2 * L - 1⟩) P = liftI (Interval.new lo hi)) := by
  obtain ⟨B, h2, hu, hl⟩ := finish_one_vs_two (F := Rex) crit ⟨L⟩ ⟨2 * L - 1⟩ (quantile_two L).symm P
  have h := one_vs_two_of_bounds B _ _ _ h2 hu hl
  exact ⟨h.1, h.2.1⟩

theorem one_vs_two_arith (crit : Crit Rex) (a : Arith Rex) (L : ℝ) :
    (∀ lo hi, a.ciMean crit (.twoSided ⟨2 * L - 1⟩) = .ok (.twoSided lo hi) →
      a.ciMean crit (.upper ⟨L⟩) = .ok (.upper lo) ∧ a.ciMean crit (.lower ⟨L⟩) = .ok (.lower hi)) ∧
    (∀ lo hi, a.ciMean crit (.upper ⟨L⟩) = .ok (.upper lo) →
      a.ciMean crit (.lower ⟨L⟩) = .ok (.lower hi) →
      a.ciMean crit (.twoSided ⟨2 * L - 1⟩) = liftI (Interval.new lo hi)) :=
  one_vs_two_finish crit L _

/-- **Paired**: the arithmetic statement on the differences -/
theorem one_vs_two_paired_bounds (crit : Crit Rex) (p : Paired Rex) (L : ℝ) :
    ∃ B : Outcome (Err Rex) (Rex × Rex),
      p.ciMean crit (.twoSided ⟨2 * L - 1⟩) = B.bind (fun b => liftI (Interval.new b.1 b.2)) ∧
      p.ciMean crit (.upper ⟨L⟩) = B.map (fun b => Interval.upper b.1) ∧
      p.ciMean crit (.lower ⟨L⟩) = B.map (fun b => Interval.lower b.2) :=
  finish_one_vs_two crit ⟨L⟩ ⟨2 * L - 1⟩ (quantile_two L).symm _

theorem one_vs_two_paired (crit : Crit Rex) (p : Paired Rex) (L : ℝ) :
    (∀ lo hi, p.ciMean crit (.twoSided ⟨2 * L - 1⟩) = .ok (.twoSided lo hi) →
      p.ciMean crit (.upper ⟨L⟩) = .ok (.upper lo) ∧ p.ciMean crit (.lower ⟨L⟩) = .ok (.lower hi)) ∧
    (∀ lo hi, p.ciMean crit (.upper ⟨L⟩) = .ok (.upper lo) →
      p.ciMean crit (.lower ⟨L⟩) = .ok (.lower hi) →
      p.ciMean crit (.twoSided ⟨2 * L - 1⟩) = liftI (Interval.new lo hi)) :=
  one_vs_two_arith crit p.stats L

/-- **Unpaired**: the degrees of freedom do not depend on the confidence -/
theorem one_vs_two_unpaired (crit : Crit Rex) (u : Unpaired Rex) (L : ℝ) :
    (∀ lo hi, u.ciMean crit (.twoSided ⟨2 * L - 1⟩) = .ok (.twoSided lo hi) →
      u.ciMean crit (.upper ⟨L⟩) = .ok (.upper lo) ∧ u.ciMean crit (.lower ⟨L⟩) = .ok (.lower hi)) ∧
    (∀ lo hi, u.ciMean crit (.upper ⟨L⟩) = .ok (.upper lo) →
      u.ciMean crit (.lower ⟨L⟩) = .ok (.lower hi) →
      u.ciMean crit (.twoSided ⟨2 * L - 1⟩) = liftI (Interval.new lo hi)) :=
  one_vs_two_finish crit L _

/-- **Geometric and harmonic, any carrier**: the bounds of a successful two-sided call at `l₂`
    are the bounds of the one-sided calls at `l` (which then succeed). For the harmonic mean the
    upper one-sided call works on the *lower* one-sided reciprocal-space interval (flipped
    confidence) and takes `recipBound` of its end: it is the two-sided call's lower bound. -/
theorem one_vs_two_geo_harm_carrier {F W : Type} [Scalar F] [Scalar W] [Widen F W] (crit : Crit W)
    (l l₂ : W) (hq : l = (Confidence.twoSided l₂).quantile) (g : Geometric F) (h : Harmonic F) :
    (∀ lo hi, g.ciMean crit (.twoSided l₂) = .ok (.twoSided lo hi) →
      g.ciMean crit (.upper l) = .ok (.upper lo) ∧ g.ciMean crit (.lower l) = .ok (.lower hi)) ∧
    (∀ lo hi, h.ciMean crit (.twoSided l₂) = .ok (.twoSided lo hi) →
      h.ciMean crit (.upper l) = .ok (.upper lo) ∧ h.ciMean crit (.lower l) = .ok (.lower hi)) :=
  ⟨Geometric.one_vs_two crit g l l₂ hq, Harmonic.one_vs_two crit h l l₂ hq⟩

theorem one_vs_two_geometric (crit : Crit Rex) (g : Geometric Rex) (L : ℝ) :
    (∀ lo hi, g.ciMean crit (.twoSided ⟨2 * L - 1⟩) = .ok (.twoSided lo hi) →
      g.ciMean crit (.upper ⟨L⟩) = .ok (.upper lo) ∧ g.ciMean crit (.lower ⟨L⟩) = .ok (.lower hi)) ∧
    (∀ lo hi, g.ciMean crit (.upper ⟨L⟩) = .ok (.upper lo) →
      g.ciMean crit (.lower ⟨L⟩) = .ok (.lower hi) →
      ∀ I, g.ciMean crit (.twoSided ⟨2 * L - 1⟩) = .ok I → I = .twoSided lo hi) :=
  ⟨Geometric.one_vs_two crit g ⟨L⟩ ⟨2 * L - 1⟩ (quantile_two L).symm,
    (Geometric.kindForm crit g).two_of_one ⟨L⟩ ⟨2 * L - 1⟩ (quantile_two L).symm⟩

/-- **Harmonic** at `Rex`, every `L` (no positivity needed here: the same `recipBound` is applied
    to the same reciprocal-space bound in both calls) -/
theorem one_vs_two_harmonic (crit : Crit Rex) (g : Harmonic Rex) (L : ℝ) :
    (∀ lo hi, g.ciMean crit (.twoSided ⟨2 * L - 1⟩) = .ok (.twoSided lo hi) →
      g.ciMean crit (.upper ⟨L⟩) = .ok (.upper lo) ∧ g.ciMean crit (.lower ⟨L⟩) = .ok (.lower hi)) ∧
    (∀ lo hi, g.ciMean crit (.upper ⟨L⟩) = .ok (.upper lo) →
      g.ciMean crit (.lower ⟨L⟩) = .ok (.lower hi) →
      ∀ I, g.ciMean crit (.twoSided ⟨2 * L - 1⟩) = .ok I → I = .twoSided lo hi) :=
  ⟨Harmonic.one_vs_two crit g ⟨L⟩ ⟨2 * L - 1⟩ (quantile_two L).symm,
    (Harmonic.kindForm crit g).two_of_one ⟨L⟩ ⟨2 * L - 1⟩ (quantile_two L).symm⟩

/-- **Wilson**: one-sided results are `[lo, 1]` / `[0, hi]` with `lo`, `hi` the two-sided bounds
    (every `L`, every oracle: the Wilson numbers lie in `[0,1]` whatever the sign of `z`) -/
theorem one_vs_two_wilson (crit : Crit Rex) (L : ℝ) (n k : ℕ) :
    (∀ lo hi, ciWilson crit (.twoSided ⟨2 * L - 1⟩) n k = .ok (.twoSided lo hi) →
      ciWilson crit (.upper ⟨L⟩) n k = .ok (.twoSided lo ⟨1⟩) ∧
      ciWilson crit (.lower ⟨L⟩) n k = .ok (.twoSided ⟨0⟩ hi)) ∧
    (∀ lo hi, ciWilson crit (.upper ⟨L⟩) n k = .ok (.twoSided lo ⟨1⟩) →
      ciWilson crit (.lower ⟨L⟩) n k = .ok (.twoSided ⟨0⟩ hi) →
      ∀ I, ciWilson crit (.twoSided ⟨2 * L - 1⟩) n k = .ok I → I = .twoSided lo hi) := by
  have hfw := Wilson.one_vs_two crit L n k
  exact ⟨hfw, converse_of_forward (fun x : Rex => .twoSided x ⟨1⟩) (fun x : Rex => .twoSided ⟨0⟩ x)
    (fun _ _ h => by injection h) (fun _ _ h => by injection h) hfw (kind_wilson crit _ n k)⟩

theorem one_vs_two_wald (crit : Crit Rex) (L : ℝ) (n k : ℕ) :
    (∀ lo hi, ciZNormal crit (.twoSided ⟨2 * L - 1⟩) n k = .ok (.twoSided lo hi) →
      ciZNormal crit (.upper ⟨L⟩) n k = .ok (.twoSided lo ⟨1⟩) ∧
      ciZNormal crit (.lower ⟨L⟩) n k = .ok (.twoSided ⟨0⟩ hi)) ∧
    (∀ lo hi, ciZNormal crit (.upper ⟨L⟩) n k = .ok (.twoSided lo ⟨1⟩) →
      ciZNormal crit (.lower ⟨L⟩) n k = .ok (.twoSided ⟨0⟩ hi) →
      ∀ I, ciZNormal crit (.twoSided ⟨2 * L - 1⟩) n k = .ok I → I = .twoSided lo hi) := by
  have hfw := Wald.one_vs_two crit L n k
  exact ⟨hfw, converse_of_forward (fun x : Rex => .twoSided x ⟨1⟩) (fun x : Rex => .twoSided ⟨0⟩ x)
    (fun _ _ h => by injection h) (fun _ _ h => by injection h) hfw (kind_wald crit _ n k)⟩

theorem one_vs_two_quantile (crit : Crit Rex) (L : ℝ) (h1 : 1 / 2 < L) (h2 : L < 1) (n : ℕ) (q : Rex) :
    (∀ lo hi, Quantile.ciIndices crit (.twoSided ⟨2 * L - 1⟩) n q = .ok (.twoSided lo hi) →
      Quantile.ciIndices crit (.upper ⟨L⟩) n q = .ok (.upper lo) ∧
      Quantile.ciIndices crit (.lower ⟨L⟩) n q = .ok (.lower hi)) ∧
    (∀ lo hi, Quantile.ciIndices crit (.upper ⟨L⟩) n q = .ok (.upper lo) →
      Quantile.ciIndices crit (.lower ⟨L⟩) n q = .ok (.lower hi) →
      ∀ I, Quantile.ciIndices crit (.twoSided ⟨2 * L - 1⟩) n q = .ok I → I = .twoSided lo hi) := by
  have hfw := Quantile.one_vs_two crit L h1 h2 n q
  exact ⟨hfw, converse_of_forward Interval.upper Interval.lower
    (fun _ _ h => by injection h) (fun _ _ h => by injection h) hfw (kind_quantile crit _ n q)⟩

/-! ## 4. the interval contains the point estimate -/

/-- **Arithmetic**: a returned two-sided interval contains the sample mean whatever the oracle
    says (`Interval::new` accepted `mean − c·sem ≤ mean + c·sem`); a one-sided one does as soon as
    the critical value is non-negative -/
theorem contains_estimate_arith (crit : Crit Rex) (a : Arith Rex) (conf : Confidence Rex)
    (I : Interval Rex) (h : a.ciMean crit conf = .ok I)
    (hc : conf.isTwoSided = true ∨
      0 ≤ (crit (critReq conf (sub (Scalar.ofNat a.count) one))).val) :
    I.contains a.mean = true := by
  obtain ⟨p, hP, hI⟩ := finish_contains conf I h (Arith.sem_nonneg a)
  obtain ⟨_, _, _, rfl⟩ := Arith.ciPrep_eq_ok_iff.mp hP
  exact hI hc

theorem contains_estimate_arith_of_level {crit : Crit Rex} (hm : CritMono crit) (hh : CritHalf crit)
    (a : Arith Rex) (conf : Confidence Rex) (hv : ValidLevel conf)
    (hs : conf.isTwoSided = true ∨ 1 / 2 ≤ conf.level.val) (I : Interval Rex)
    (h : a.ciMean crit conf = .ok I) : I.contains a.mean = true :=
  contains_estimate_arith crit a conf I h (Or.inr ((crit_nonneg_of_level hm hh conf hv hs).1 _))

theorem contains_estimate_paired (crit : Crit Rex) (p : Paired Rex) (conf : Confidence Rex)
    (I : Interval Rex) (h : p.ciMean crit conf = .ok I)
    (hc : conf.isTwoSided = true ∨
      0 ≤ (crit (critReq conf (sub (Scalar.ofNat p.stats.count) one))).val) :
    I.contains p.mean = true := contains_estimate_arith crit p.stats conf I h hc

theorem contains_estimate_paired_of_level {crit : Crit Rex} (hm : CritMono crit) (hh : CritHalf crit)
    (p : Paired Rex) (conf : Confidence Rex) (hv : ValidLevel conf)
    (hs : conf.isTwoSided = true ∨ 1 / 2 ≤ conf.level.val) (I : Interval Rex)
    (h : p.ciMean crit conf = .ok I) : I.contains p.mean = true :=
  contains_estimate_arith_of_level hm hh p.stats conf hv hs I h

theorem contains_estimate_unpaired (crit : Crit Rex) (u : Unpaired Rex) (conf : Confidence Rex)
    (I : Interval Rex) (h : u.ciMean crit conf = .ok I)
    (hc : conf.isTwoSided = true ∨ ∀ dof : Rex, 0 ≤ (crit (critReq conf dof)).val) :
    I.contains (sub u.a.mean u.b.mean) = true := by
  obtain ⟨p, hP, hI⟩ := finish_contains conf I h (Unpaired.sem_nonneg u)
  obtain ⟨_, _, _, _, rfl⟩ := Unpaired.ciPrep_eq_ok_iff.mp hP
  exact hI (hc.imp id fun hc => hc _)

theorem contains_estimate_unpaired_of_level {crit : Crit Rex} (hm : CritMono crit)
    (hh : CritHalf crit) (u : Unpaired Rex) (conf : Confidence Rex) (hv : ValidLevel conf)
    (hs : conf.isTwoSided = true ∨ 1 / 2 ≤ conf.level.val) (I : Interval Rex)
    (h : u.ciMean crit conf = .ok I) : I.contains (sub u.a.mean u.b.mean) = true :=
  contains_estimate_unpaired crit u conf I h (Or.inr (crit_nonneg_of_level hm hh conf hv hs).1)

theorem contains_estimate_geometric (crit : Crit Rex) (g : Geometric Rex) (conf : Confidence Rex)
    (I : Interval Rex) (h : g.ciMean crit conf = .ok I)
    (hc : conf.isTwoSided = true ∨
      0 ≤ (crit (critReq conf (sub (Scalar.ofNat g.logs.count) one))).val) :
    I.contains g.mean = true := by
  obtain ⟨J, hJ, rfl⟩ := Geometric.ciMean_ok_iff_rex.mp h
  exact contains_map_exp J _ (contains_estimate_arith crit g.logs conf J hJ hc)

theorem contains_estimate_geometric_of_level {crit : Crit Rex} (hm : CritMono crit)
    (hh : CritHalf crit) (g : Geometric Rex) (conf : Confidence Rex) (hv : ValidLevel conf)
    (hs : conf.isTwoSided = true ∨ 1 / 2 ≤ conf.level.val) (I : Interval Rex)
    (h : g.ciMean crit conf = .ok I) : I.contains g.mean = true :=
  contains_estimate_geometric crit g conf I h (Or.inr ((crit_nonneg_of_level hm hh conf hv hs).1 _))

/-- **Harmonic**: contains the harmonic mean `1 / (mean of the reciprocals)`, provided that mean is
    positive (it is for accepted data) and the finite bounds of the reciprocal-space interval are
    positive (`PosBounds`: there `recipBound r = 1/r`) -/
theorem contains_estimate_harmonic (crit : Crit Rex) (g : Harmonic Rex) (conf : Confidence Rex)
    (I : Interval Rex) (h : g.ciMean crit conf = .ok I)
    (hc : conf.isTwoSided = true ∨
      0 ≤ (crit (critReq conf (sub (Scalar.ofNat g.recip.count) one))).val)
    (hmean : 0 < g.recip.mean.val)
    (hpos : ∀ J, g.recip.ciMean crit conf.flipped = .ok J → PosBounds J) :
    I.contains g.mean = true := by
  obtain ⟨a, b, hJ, rfl, hp⟩ := Harmonic.recip_of_ok crit g conf I h hpos
  have hcont := contains_estimate_arith crit g.recip conf.flipped _ hJ (by
    rw [Confidence.flipped_isTwoSided, critReq_congr conf.flipped conf conf.flipped_quantile]
    exact hc)
  rw [shapeOf_contains_iff, Confidence.flipped_isLower, Confidence.flipped_isUpper, RR.le_iff,
    RR.le_iff] at hcont
  -- the harmonic mean is `recipBound` of the (positive) mean of the reciprocals
  rw [show g.mean = Harmonic.recipBound g.recip.mean from
    (Harmonic.recipBound_of_pos _ ((RR.gt_iff _ _).mpr hmean)).symm]
  exact shapeOf_contains conf (fun hL => le_recipBound hmean (hcont.2 hL))
    (fun hU => le_recipBound (hp.1 hU) (hcont.1 hU))

theorem contains_estimate_harmonic_of_level {crit : Crit Rex} (hm : CritMono crit)
    (hh : CritHalf crit) (g : Harmonic Rex) (conf : Confidence Rex) (hv : ValidLevel conf)
    (hs : conf.isTwoSided = true ∨ 1 / 2 ≤ conf.level.val) (I : Interval Rex)
    (h : g.ciMean crit conf = .ok I) (hmean : 0 < g.recip.mean.val)
    (hpos : ∀ J, g.recip.ciMean crit conf.flipped = .ok J → PosBounds J) :
    I.contains g.mean = true :=
  contains_estimate_harmonic crit g conf I h
    (Or.inr ((crit_nonneg_of_level hm hh conf hv hs).1 _)) hmean hpos

theorem contains_estimate_wilson (crit : Crit Rex) (conf : Confidence Rex) (n k : ℕ)
    (I : Interval Rex) (h : ciWilson crit conf n k = .ok I)
    (hz : conf.isTwoSided = true ∨ 0 ≤ (crit (.z conf.quantile)).val) :
    I.contains (div (Scalar.ofNat k) (Scalar.ofNat n) : Rex) = true := by
  obtain ⟨hk2, hkn, _, rfl, hz2⟩ := ciWilson_ok_iff_rex.mp h
  have hz' : 0 ≤ zOf crit conf := hz.elim hz2 id
  obtain ⟨hn, h0, h2, hr0, hr1⟩ := ratio_mem (by omega : k < n)
  exact propShape_contains conf (x := waldP n k) hr0 hr1 (lowerR_le_ratio n k _ hn hz' h0 h2)
    (ratio_le_upperR n k _ hn hz' h0 h2)

theorem contains_estimate_wilson_of_level {crit : Crit Rex} (hm : CritMono crit) (hh : CritHalf crit)
    (conf : Confidence Rex) (hv : ValidLevel conf)
    (hs : conf.isTwoSided = true ∨ 1 / 2 ≤ conf.level.val) (n k : ℕ) (I : Interval Rex)
    (h : ciWilson crit conf n k = .ok I) :
    I.contains (div (Scalar.ofNat k) (Scalar.ofNat n) : Rex) = true :=
  contains_estimate_wilson crit conf n k I h (Or.inr (crit_nonneg_of_level hm hh conf hv hs).2)

theorem contains_estimate_wald (crit : Crit Rex) (conf : Confidence Rex) (n k : ℕ)
    (I : Interval Rex) (h : ciZNormal crit conf n k = .ok I)
    (hz : conf.isTwoSided = true ∨ 0 ≤ (crit (.z conf.quantile)).val) :
    I.contains (div (Scalar.ofNat k) (Scalar.ofNat n) : Rex) = true := by
  obtain ⟨hk2, hkn, _, rfl, hadm⟩ := ciZNormal_ok_iff_rex.mp h
  have hs : 0 ≤ zOf crit conf * (waldSd n k : Rex).val :=
    hz.elim hadm.nonneg_of_twoSided fun hz => mul_nonneg hz (waldSd_nonneg n k)
  obtain ⟨_, _, _, hr0, hr1⟩ := ratio_mem (by omega : k < n)
  exact propShape_contains conf (x := waldP n k) hr0 hr1 (sub_le_self _ hs)
    (le_add_of_nonneg_right hs)

theorem contains_estimate_wald_of_level {crit : Crit Rex} (hm : CritMono crit) (hh : CritHalf crit)
    (conf : Confidence Rex) (hv : ValidLevel conf)
    (hs : conf.isTwoSided = true ∨ 1 / 2 ≤ conf.level.val) (n k : ℕ) (I : Interval Rex)
    (h : ciZNormal crit conf n k = .ok I) :
    I.contains (div (Scalar.ofNat k) (Scalar.ofNat n) : Rex) = true :=
  contains_estimate_wald crit conf n k I h (Or.inr (crit_nonneg_of_level hm hh conf hv hs).2)

/-- **Quantile ranks**: the ranks bracket the rank `k = round(q·n)` of the sample quantile
    (`C03.bracket`; with `z > 0` the lower rank is even `≤ k − 1`: "to within one position") -/
theorem contains_estimate_quantile (crit : Crit Rex) (conf : Confidence Rex) (hv : ValidLevel conf)
    (n : ℕ) (q : Rex) (I : Interval ℕ) (h : Quantile.ciIndices crit conf n q = .ok I)
    (hz : conf.isTwoSided = true ∨ 0 ≤ (crit (.z conf.quantile)).val) :
    I.contains (successes q.val n) = true := by
  have hz' : 0 ≤ zOf crit conf :=
    hz.elim ((Quantile.ciIndices_ok_iff crit conf n q hv I).mp h).2.2.2.2.1 id
  obtain ⟨_, _, hb⟩ := C03.bracket crit conf n q hv I h hz'
  cases I <;> simp only [Interval.contains, Cmp.le, Bool.and_eq_true, decide_eq_true_eq] at hb ⊢
  · exact ⟨hb.1, hb.2.1⟩
  · exact hb.1
  · exact hb

theorem contains_estimate_quantile_of_level {crit : Crit Rex} (hm : CritMono crit)
    (hh : CritHalf crit) (conf : Confidence Rex) (hv : ValidLevel conf)
    (hs : conf.isTwoSided = true ∨ 1 / 2 ≤ conf.level.val) (n : ℕ) (q : Rex) (I : Interval ℕ)
    (h : Quantile.ciIndices crit conf n q = .ok I) : I.contains (successes q.val n) = true :=
  contains_estimate_quantile crit conf hv n q I h
    (Or.inr (crit_nonneg_of_level hm hh conf hv hs).2)

/-! ## 3. raising the level never shrinks the interval -/

/-- **Arithmetic**: same kind, `L₁ ≤ L₂`, monotone oracle: `CI(L₂)` includes `CI(L₁)`
    (`sem ≥ 0`, so the half-width `c·sem` is monotone in `c`; no validity or sign condition) -/
theorem nested_arith {crit : Crit Rex} (hm : CritMono crit) (a : Arith Rex)
    (c₁ c₂ : Confidence Rex) (hk : c₁.kind = c₂.kind) (hl : c₁.level.val ≤ c₂.level.val)
    (i₁ i₂ : Interval Rex) (h₁ : a.ciMean crit c₁ = .ok i₁) (h₂ : a.ciMean crit c₂ = .ok i₂) :
    i₂.includes i₁ = true := Arith.nested hm a c₁ c₂ hk hl i₁ i₂ h₁ h₂

/-- with an oracle that also vanishes at `1/2`, success does not depend on the valid confidence at
    all: if some call succeeds, so does the call at any valid `c₁` (of any kind) -/
theorem nested_arith_ok {crit : Crit Rex} (hm : CritMono crit) (hh : CritHalf crit) (a : Arith Rex)
    (c₁ c₂ : Confidence Rex) (hv₁ : ValidLevel c₁) (i₂ : Interval Rex)
    (h₂ : a.ciMean crit c₂ = .ok i₂) : ∃ i₁ : Interval Rex, a.ciMean crit c₁ = .ok i₁ :=
  finish_ok_transfer hm hh c₁ c₂ hv₁ i₂ h₂ (Arith.sem_nonneg a)

theorem nested_paired {crit : Crit Rex} (hm : CritMono crit) (p : Paired Rex)
    (c₁ c₂ : Confidence Rex) (hk : c₁.kind = c₂.kind) (hl : c₁.level.val ≤ c₂.level.val)
    (i₁ i₂ : Interval Rex) (h₁ : p.ciMean crit c₁ = .ok i₁) (h₂ : p.ciMean crit c₂ = .ok i₂) :
    i₂.includes i₁ = true := Arith.nested hm p.stats c₁ c₂ hk hl i₁ i₂ h₁ h₂

theorem nested_paired_ok {crit : Crit Rex} (hm : CritMono crit) (hh : CritHalf crit)
    (p : Paired Rex) (c₁ c₂ : Confidence Rex) (hv₁ : ValidLevel c₁) (i₂ : Interval Rex)
    (h₂ : p.ciMean crit c₂ = .ok i₂) : ∃ i₁ : Interval Rex, p.ciMean crit c₁ = .ok i₁ :=
  nested_arith_ok hm hh p.stats c₁ c₂ hv₁ i₂ h₂

/-- **Unpaired**: the effective degrees of freedom do not depend on the level -/
theorem nested_unpaired {crit : Crit Rex} (hm : CritMono crit) (u : Unpaired Rex)
    (c₁ c₂ : Confidence Rex) (hk : c₁.kind = c₂.kind) (hl : c₁.level.val ≤ c₂.level.val)
    (i₁ i₂ : Interval Rex) (h₁ : u.ciMean crit c₁ = .ok i₁) (h₂ : u.ciMean crit c₂ = .ok i₂) :
    i₂.includes i₁ = true := Unpaired.nested hm u c₁ c₂ hk hl i₁ i₂ h₁ h₂

theorem nested_unpaired_ok {crit : Crit Rex} (hm : CritMono crit) (hh : CritHalf crit)
    (u : Unpaired Rex) (c₁ c₂ : Confidence Rex) (hv₁ : ValidLevel c₁) (i₂ : Interval Rex)
    (h₂ : u.ciMean crit c₂ = .ok i₂) : ∃ i₁ : Interval Rex, u.ciMean crit c₁ = .ok i₁ :=
  finish_ok_transfer hm hh c₁ c₂ hv₁ i₂ h₂ (Unpaired.sem_nonneg u)

/-- **Geometric**: `exp` is monotone -/
theorem nested_geometric {crit : Crit Rex} (hm : CritMono crit) (g : Geometric Rex)
    (c₁ c₂ : Confidence Rex) (hk : c₁.kind = c₂.kind) (hl : c₁.level.val ≤ c₂.level.val)
    (i₁ i₂ : Interval Rex) (h₁ : g.ciMean crit c₁ = .ok i₁) (h₂ : g.ciMean crit c₂ = .ok i₂) :
    i₂.includes i₁ = true := Geometric.nested hm g c₁ c₂ hk hl i₁ i₂ h₁ h₂

theorem nested_geometric_ok {crit : Crit Rex} (hm : CritMono crit) (hh : CritHalf crit)
    (g : Geometric Rex) (c₁ c₂ : Confidence Rex) (hv₁ : ValidLevel c₁) (i₂ : Interval Rex)
    (h₂ : g.ciMean crit c₂ = .ok i₂) : ∃ i₁ : Interval Rex, g.ciMean crit c₁ = .ok i₁ := by
  obtain ⟨J₂, hJ₂, _⟩ := Geometric.ciMean_ok_iff_rex.mp h₂
  obtain ⟨J₁, hJ₁⟩ := nested_arith_ok hm hh g.logs c₁ c₂ hv₁ J₂ hJ₂
  exact ⟨_, Geometric.ciMean_ok_iff_rex.mpr ⟨J₁, hJ₁, rfl⟩⟩

/-- **Harmonic**: the reciprocal is antitone on positive reciprocal-space bounds. (No `_ok`
    companion: at `Rex` a two-sided call fails with `InvalidBounds` when the reciprocal-space lower
    bound is `≤ 0` — `recipBound` is then the stand-in of `+∞` — which does depend on the level.) -/
theorem nested_harmonic {crit : Crit Rex} (hm : CritMono crit) (g : Harmonic Rex)
    (c₁ c₂ : Confidence Rex) (hk : c₁.kind = c₂.kind) (hl : c₁.level.val ≤ c₂.level.val)
    (i₁ i₂ : Interval Rex) (h₁ : g.ciMean crit c₁ = .ok i₁) (h₂ : g.ciMean crit c₂ = .ok i₂)
    (hpos₁ : ∀ J, g.recip.ciMean crit c₁.flipped = .ok J → PosBounds J)
    (hpos₂ : ∀ J, g.recip.ciMean crit c₂.flipped = .ok J → PosBounds J) :
    i₂.includes i₁ = true := Harmonic.nested hm g c₁ c₂ hk hl i₁ i₂ h₁ h₂ hpos₁ hpos₂

/-- **Wilson**: only monotonicity of the normal quantile is used; in particular this covers
    one-sided levels below `1/2`, where the critical value is negative -/
theorem nested_wilson {crit : Crit Rex} (hm : CritMono crit) (c₁ c₂ : Confidence Rex)
    (hk : c₁.kind = c₂.kind) (hl : c₁.level.val ≤ c₂.level.val) (n k : ℕ)
    (i₁ i₂ : Interval Rex) (h₁ : ciWilson crit c₁ n k = .ok i₁)
    (h₂ : ciWilson crit c₂ n k = .ok i₂) : i₂.includes i₁ = true :=
  Wilson.nested hm c₁ c₂ hk hl n k i₁ i₂ h₁ h₂

/-- success of `ci_wilson` transfers to any valid confidence; only the two-sided kind needs a
    non-negative critical value (a negative one inverts the Wilson ends: `InvalidBounds`) -/
theorem nested_wilson_ok (crit : Crit Rex) (c₁ c₂ : Confidence Rex) (hv₁ : ValidLevel c₁)
    (hz₁ : c₁.isTwoSided = true → 0 ≤ (crit (.z c₁.quantile)).val) (n k : ℕ) (i₂ : Interval Rex)
    (h₂ : ciWilson crit c₂ n k = .ok i₂) : ∃ i₁ : Interval Rex, ciWilson crit c₁ n k = .ok i₁ := by
  obtain ⟨hk2, hkn, _⟩ := ciWilson_ok_iff_rex.mp h₂
  exact ⟨_, ciWilson_ok_iff_rex.mpr ⟨hk2, hkn, probOk_of_validLevel hv₁, rfl, hz₁⟩⟩

theorem nested_wald {crit : Crit Rex} (hm : CritMono crit) (c₁ c₂ : Confidence Rex)
    (hk : c₁.kind = c₂.kind) (hl : c₁.level.val ≤ c₂.level.val) (n k : ℕ)
    (i₁ i₂ : Interval Rex) (h₁ : ciZNormal crit c₁ n k = .ok i₁)
    (h₂ : ciZNormal crit c₂ n k = .ok i₂) : i₂.includes i₁ = true :=
  Wald.nested hm c₁ c₂ hk hl n k i₁ i₂ h₁ h₂

/-- for Wald a negative critical value can also break a one-sided call (`p − z·sd > 1` is
    rejected by `Interval::new`), so success transfers to valid confidences with `z ≥ 0` -/
theorem nested_wald_ok (crit : Crit Rex) (c₁ c₂ : Confidence Rex) (hv₁ : ValidLevel c₁)
    (hz₁ : 0 ≤ (crit (.z c₁.quantile)).val) (n k : ℕ) (i₂ : Interval Rex)
    (h₂ : ciZNormal crit c₂ n k = .ok i₂) : ∃ i₁ : Interval Rex, ciZNormal crit c₁ n k = .ok i₁ := by
  obtain ⟨hk2, hkn, _⟩ := ciZNormal_ok_iff_rex.mp h₂
  exact ⟨_, ciZNormal_ok_of_nonneg hk2 hkn (probOk_of_validLevel hv₁)
    (mul_nonneg hz₁ (waldSd_nonneg n k))⟩

/-- **Quantile ranks**: `⌊·⌋` and `min · (n−1)` are monotone, the Wilson bounds are monotone in `z` -/
theorem nested_quantile {crit : Crit Rex} (hm : CritMono crit) (c₁ c₂ : Confidence Rex)
    (hv₁ : ValidLevel c₁) (hv₂ : ValidLevel c₂) (hk : c₁.kind = c₂.kind)
    (hl : c₁.level.val ≤ c₂.level.val) (n : ℕ) (q : Rex) (i₁ i₂ : Interval ℕ)
    (h₁ : Quantile.ciIndices crit c₁ n q = .ok i₁) (h₂ : Quantile.ciIndices crit c₂ n q = .ok i₂) :
    i₂.includes i₁ = true := Quantile.nested hm c₁ c₂ hv₁ hv₂ hk hl n q i₁ i₂ h₁ h₂

theorem nested_quantile_ok (crit : Crit Rex) (c₁ c₂ : Confidence Rex) (hv₁ : ValidLevel c₁)
    (hv₂ : ValidLevel c₂) (hz₁ : c₁.isTwoSided = true → 0 ≤ (crit (.z c₁.quantile)).val) (n : ℕ)
    (q : Rex) (i₂ : Interval ℕ) (h₂ : Quantile.ciIndices crit c₂ n q = .ok i₂) :
    ∃ i₁ : Interval ℕ, Quantile.ciIndices crit c₁ n q = .ok i₁ := by
  obtain ⟨hq, hn, hk2, hf, _⟩ := (Quantile.ciIndices_ok_iff crit c₂ n q hv₂ i₂).mp h₂
  exact ⟨_, (Quantile.ciIndices_ok_iff crit c₁ n q hv₁ _).mpr ⟨hq, hn, hk2, hf, hz₁, rfl⟩⟩

/-! ## non-vacuity

  Oracle `linCrit` (`p ↦ p − 1/2`: monotone, zero at `1/2`); states built from the sample `1, 2, 4`
  (`exArith`, and the paired / geometric / harmonic states over it), the two samples `1, 2` and
  `3, 5` (`exUnpaired`), `k = 3` of `n = 10` (Wilson), `k = 12` of `n = 30` (Wald), the median of
  `n = 10` (quantile ranks). Every producer succeeds on them for **every** valid confidence, so each
  hypothesis `… = .ok I` above is met, at any kind and at any pair of levels. -/

section nonvacuity

example : CritMono linCrit ∧ CritHalf linCrit := ⟨linCrit_mono, linCrit_half⟩

/-- levels: `L = 0.95` one-sided, `2L − 1` two-sided; two levels of one kind, `L₁ ≤ L₂`;
    the side condition "two-sided, or level `≥ 1/2`" -/
example : (1 / 2 : ℝ) < 0.95 ∧ (0.95 : ℝ) < 1 ∧ ValidLevel (.twoSided (⟨2 * 0.95 - 1⟩ : Rex)) ∧
    ValidLevel (.upper (⟨0.95⟩ : Rex)) ∧ ValidLevel (.lower (⟨0.95⟩ : Rex)) := by
  have h1 : (1 / 2 : ℝ) < 0.95 := by norm_num
  have h2 : (0.95 : ℝ) < 1 := by norm_num
  exact ⟨h1, h2, validLevel_two _ h1 h2, ⟨one_half_pos.trans h1, h2⟩, ⟨one_half_pos.trans h1, h2⟩⟩

example : ∃ c₁ c₂ : Confidence Rex, ValidLevel c₁ ∧ ValidLevel c₂ ∧ c₁.kind = c₂.kind ∧
    c₁.level.val ≤ c₂.level.val ∧ c₁.level.val ≠ c₂.level.val ∧
    (c₁.isTwoSided = true ∨ 1 / 2 ≤ c₁.level.val) := by
  refine ⟨.upper ⟨0.6⟩, .upper ⟨0.9⟩, ?_, ?_, rfl, ?_, ?_, Or.inr ?_⟩ <;>
    simp only [ValidLevel, Confidence.level] <;> norm_num

/-- the premise of every `one_vs_two_*`: the two-sided call at `2L − 1` succeeds -/
example : (∃ lo hi, exArith.ciMean linCrit (.twoSided ⟨2 * 0.95 - 1⟩) = .ok (.twoSided lo hi)) ∧
    (∃ lo hi, ciWilson linCrit (.twoSided ⟨2 * 0.95 - 1⟩) 10 3 = .ok (.twoSided lo hi)) := by
  have hv := validLevel_two 0.95 (by norm_num) (by norm_num)
  constructor
  · obtain ⟨J, hJ, ⟨lo, hi, rfl⟩, _⟩ := exArith_ok _ hv
    exact ⟨lo, hi, hJ⟩
  · obtain ⟨I, hI⟩ := exWilson_ok _ hv
    obtain ⟨lo, hi, rfl⟩ := kind_wilson linCrit _ 10 3 I hI
    exact ⟨lo, hi, hI⟩

/-- every producer succeeds for every valid confidence on the instances above (Wald: with a
    non-negative critical value); the harmonic side conditions hold as well -/
example (conf : Confidence Rex) (hv : ValidLevel conf) :
    (∃ I, exArith.ciMean linCrit conf = .ok I) ∧ (∃ I, exPaired.ciMean linCrit conf = .ok I) ∧
    (∃ I, exUnpaired.ciMean linCrit conf = .ok I) ∧ (∃ I, exGeo.ciMean linCrit conf = .ok I) ∧
    ((∃ I, exHarm.ciMean linCrit conf = .ok I) ∧ 0 < exHarm.recip.mean.val ∧
      ∀ J, exHarm.recip.ciMean linCrit conf.flipped = .ok J → PosBounds J) ∧
    (∃ I, ciWilson linCrit conf 10 3 = .ok I) ∧
    (conf.isTwoSided = true ∨ 1 / 2 ≤ conf.level.val → ∃ I, ciZNormal linCrit conf 30 12 = .ok I) ∧
    (∃ I, Quantile.ciIndices linCrit conf 10 (inj (1 / 2)) = .ok I) := by
  obtain ⟨J, hJ, _, _⟩ := exArith_ok conf hv
  exact ⟨⟨J, hJ⟩, ⟨J, hJ⟩, exUnpaired_ok conf hv, exGeo_ok conf hv, exHarm_ok conf hv,
    exWilson_ok conf hv, exWald_ok conf hv, exQuantile_ok conf hv⟩

/-- the carrier-generic hypothesis `l = (twoSided l₂).quantile` is met at `Rex` by `l = L`,
    `l₂ = 2L − 1` -/
example : (⟨0.95⟩ : Rex) = (Confidence.twoSided (⟨2 * 0.95 - 1⟩ : Rex)).quantile :=
  (quantile_two 0.95).symm

/-- the side condition of `contains_estimate_wilson` cannot be dropped for the one-sided kinds: at the
    valid upper one-sided level `0.3 < 1/2` the (monotone, symmetric) oracle `linCrit` answers
    `z = −0.2`, the call succeeds, and the interval `[lo, 1]` has `lo > k/n`: the observed
    proportion is *not* contained. -/
example : ∃ I, ciWilson linCrit (.upper ⟨0.3⟩) 10 3 = .ok I ∧
    I.contains (div (Scalar.ofNat 3) (Scalar.ofNat 10) : Rex) = false := by
  have hv : ValidLevel (.upper (⟨0.3⟩ : Rex)) := by
    constructor <;> simp only [Confidence.level] <;> norm_num
  refine ⟨_, ciWilson_ok_iff_rex.mpr ⟨by norm_num, by norm_num, probOk_of_validLevel hv, rfl,
    nofun⟩, ?_⟩
  have hz : zOf linCrit (.upper (⟨0.3⟩ : Rex)) = -0.2 := by
    rw [zOf_linCrit]; simp only [Confidence.quantile]; norm_num
  rw [hz, lowerR_neg]
  have h1 := ratio_le_upperR ((10 : ℕ) : ℝ) ((3 : ℕ) : ℝ) 0 (by norm_num) le_rfl (by norm_num)
    (by norm_num)
  have h2 := upperR_strictMono_z ((10 : ℕ) : ℝ) ((3 : ℕ) : ℝ) 0 0.2 (by norm_num) le_rfl
    (by norm_num) (by norm_num) (by norm_num)
  exact Bool.eq_false_iff.mpr fun h =>
    absurd ((contains_twoSided _ _ _).mp h).1 (not_le.mpr (h1.trans_lt h2))

end nonvacuity

end StatsCI.C10
