/-
  C05 — Geometric / harmonic CIs are the back-transformed arithmetic CIs.

  Items 1–5 are at exact arithmetic `Rex = RR id` for positive real data `xs`; items 2b and 6 hold
  for *every* carrier. Real statistics as in C01 (`smean`, `svar`, `ssd`, `halfWidth`).

  Harmonic: the model takes the reciprocal of a reciprocal-space bound `r` through
  `Harmonic.recipBound r = if r > 0 then 1/r else +∞`. Item 2 is the branch `r > 0` (hypothesis on
  exactly the bound that is used), item 2b the other branch.
-/
import StatsCI.Lemmas.MeanLog
import StatsCI.Lemmas.XR

set_option linter.unusedSectionVars false

namespace StatsCI.C05
open StatsCI StatsCI.MeanLemmas NumOps Scalar

/-! ### 1. geometric -/

/-- `Geometric::ci` is the arithmetic CI of the logarithms mapped through `exp` bound by bound,
    with the same kind (for a two-sided result `exp lo ≤ exp hi` holds, so `Interval::new`
    accepts); errors and panics of the log-space computation pass through unchanged -/
theorem geometric (crit : Crit Rex) (conf : Confidence Rex) (xs : List ℝ)
    (hpos : ∀ x ∈ xs, 0 < x) :
    Geometric.ci crit conf (xs.map inj) =
      (Arith.ci crit conf ((xs.map Real.log).map inj : List Rex)).map
        (Interval.map Scalar.exp) := by
  unfold Geometric.ci
  rw [Geometric.fromList_rex xs hpos, Outcome.bind_ok, Geometric.ciMean_rex]
  rfl

/-- explicit bounds for `n ≥ 2` and a valid level: `exp(ȳ ∓ c·s_y/√n)` with `y = ln x` -/
theorem geometric_bounds (crit : Crit Rex) (conf : Confidence Rex) (xs : List ℝ)
    (hpos : ∀ x ∈ xs, 0 < x) (hn : 2 ≤ xs.length) (h0 : 0 < conf.level.val)
    (h1 : conf.level.val < 1) :
    Geometric.ci crit conf (xs.map inj) =
      match conf with
      | .twoSided _ =>
        if 0 ≤ halfWidth crit conf (xs.map Real.log) then
          .ok (.twoSided
            (⟨Real.exp (smean (xs.map Real.log) - halfWidth crit conf (xs.map Real.log))⟩ : Rex)
            ⟨Real.exp (smean (xs.map Real.log) + halfWidth crit conf (xs.map Real.log))⟩)
        else .err (.interval .invalidBounds)
      | .upper _ =>
        .ok (.upper
          (⟨Real.exp (smean (xs.map Real.log) - halfWidth crit conf (xs.map Real.log))⟩ : Rex))
      | .lower _ =>
        .ok (.lower
          (⟨Real.exp (smean (xs.map Real.log) + halfWidth crit conf (xs.map Real.log))⟩ : Rex)) := by
  rw [geometric crit conf xs hpos,
    Arith.ci_rex crit conf (xs.map Real.log) (by simpa using hn) (probOk_quantile conf h0 h1),
    intervalOfKind_pm]
  cases conf with
  | twoSided l => dsimp only; split <;> rfl
  | upper l => rfl
  | lower l => rfl

/-! ### 2. harmonic -/

section kinds
variable {F W : Type} [Scalar F] [Scalar W] [Widen F W]

/-- the three kinds through `recipBound`, no sign hypothesis: ends exchanged, an upper one-sided
    request uses the lower one-sided reciprocal-space bound and vice versa -/
theorem harmonic_ciMean_recipBound (crit : Crit W) (h : Harmonic F) (l : W) :
    (∀ a b : F, h.recip.ciMean crit (Confidence.twoSided l).flipped = .ok (.twoSided a b) →
      h.ciMean crit (.twoSided l) =
        liftI (Interval.new (Harmonic.recipBound b) (Harmonic.recipBound a))) ∧
    (∀ b : F, h.recip.ciMean crit (Confidence.upper l).flipped = .ok (.lower b) →
      h.ciMean crit (.upper l) = .ok (.upper (Harmonic.recipBound b))) ∧
    (∀ a : F, h.recip.ciMean crit (Confidence.lower l).flipped = .ok (.upper a) →
      h.ciMean crit (.lower l) = .ok (.lower (Harmonic.recipBound a))) := by
  refine ⟨fun _ _ hJ => ?_, fun _ hJ => ?_, fun _ hJ => ?_⟩ <;>
    (unfold Harmonic.ciMean; rw [hJ]; rfl)

/-- `Harmonic::ci` is `ci_mean` of the state built by `from_iter` -/
theorem harmonic_ci_of_state (crit : Crit W) (conf : Confidence W) (xs : List F) (h : Harmonic F)
    (hf : (Harmonic.fromList xs : Outcome (Err W) (Harmonic F)) = .ok h) :
    Harmonic.ci crit conf xs = h.ciMean crit conf := by
  unfold Harmonic.ci
  rw [hf, Outcome.bind_ok]

end kinds

/-- `Harmonic::ci` runs `ci_mean` on the arithmetic state of the reciprocals -/
theorem harmonic_state (crit : Crit Rex) (conf : Confidence Rex) (xs : List ℝ)
    (hpos : ∀ x ∈ xs, 0 < x) :
    Harmonic.ci crit conf (xs.map inj) =
      Harmonic.ciMean crit
        (⟨Arith.fromList ((xs.map (fun x => 1 / x)).map inj)⟩ : Harmonic Rex) conf :=
  harmonic_ci_of_state crit conf _ _ (Harmonic.fromList_rex xs hpos)

/-- two-sided without the positivity hypothesis: the model hands
    `(recipBound b, recipBound a)` to `Interval::new`, where `recipBound r` is `1/r` for `r > 0`
    and `+∞` otherwise (see `recipBound_pos`, `recipBound_not_pos`) -/
theorem harmonic_twoSided_general (crit : Crit Rex) (l : Rex) (xs : List ℝ)
    (hpos : ∀ x ∈ xs, 0 < x) (a b : Rex)
    (hJ : Arith.ci crit (Confidence.twoSided l).flipped ((xs.map (fun x => 1 / x)).map inj) =
      .ok (.twoSided a b)) :
    Harmonic.ci crit (.twoSided l) (xs.map inj) =
      liftI (Interval.new (Harmonic.recipBound b) (Harmonic.recipBound a)) := by
  rw [harmonic_state crit _ xs hpos]
  exact (harmonic_ciMean_recipBound crit _ l).1 a b hJ

/-- the three kinds below are exhaustive: a successful reciprocal-space interval at the flipped
    confidence has the flipped kind; errors and panics pass through unchanged -/
theorem harmonic_cases (crit : Crit Rex) (conf : Confidence Rex) (xs : List ℝ)
    (hpos : ∀ x ∈ xs, 0 < x) :
    (∀ J, Arith.ci crit conf.flipped ((xs.map (fun x => 1 / x)).map inj : List Rex) = .ok J →
      match conf with
      | .twoSided _ => ∃ a b, J = .twoSided a b ∧ a.val ≤ b.val
      | .upper _ => ∃ b, J = .lower b
      | .lower _ => ∃ a, J = .upper a) ∧
    (∀ e, Arith.ci crit conf.flipped ((xs.map (fun x => 1 / x)).map inj : List Rex) = .err e →
      Harmonic.ci crit conf (xs.map inj : List Rex) = .err e) ∧
    (∀ t, Arith.ci crit conf.flipped ((xs.map (fun x => 1 / x)).map inj : List Rex) = .panic t →
      Harmonic.ci crit conf (xs.map inj : List Rex) = .panic t) := by
  -- `ci_mean` of the state is a `bind` on the reciprocal-space interval
  have hb : Harmonic.ci crit conf (xs.map inj : List Rex) =
      (Arith.ci crit conf.flipped ((xs.map (fun x => 1 / x)).map inj : List Rex)).bind _ :=
    harmonic_state crit conf xs hpos
  refine ⟨?_, fun e he => by rw [hb, he]; rfl, fun t ht => by rw [hb, ht]; rfl⟩
  intro J hJ
  rw [Arith.ci_eq_finish] at hJ
  obtain ⟨p, -, -, -, rfl, hg⟩ := finish_eq_ok_iff.mp hJ
  cases conf with
  | twoSided l =>
    refine ⟨_, _, rfl, ?_⟩
    exact (RR.gt_eq_false_iff _ _).mp (hg rfl)
  | upper l => exact ⟨_, rfl⟩
  | lower l => exact ⟨_, rfl⟩

/-- two-sided: if the arithmetic CI of the reciprocals (flipped confidence = same two-sided
    confidence) is `[a, b]` with `0 < a`, the result is `[1/b, 1/a]` -/
theorem harmonic_twoSided (crit : Crit Rex) (l : Rex) (xs : List ℝ) (hpos : ∀ x ∈ xs, 0 < x)
    (a b : Rex)
    (hJ : Arith.ci crit (Confidence.twoSided l).flipped ((xs.map (fun x => 1 / x)).map inj) =
      .ok (.twoSided a b))
    (ha : 0 < a.val) :
    Harmonic.ci crit (.twoSided l) (xs.map inj) =
      .ok (.twoSided (⟨1 / b.val⟩ : Rex) ⟨1 / a.val⟩) := by
  obtain ⟨a', b', hab, hle⟩ := (harmonic_cases crit (.twoSided l) xs hpos).1 _ hJ
  cases hab
  rw [harmonic_twoSided_general crit l xs hpos a b hJ, recipBound_fl_pos a ha,
    recipBound_fl_pos b (lt_of_lt_of_le ha hle)]
  exact liftI_new_eq_ok_iff.mpr
    ⟨(RR.gt_eq_false_iff _ _).mpr (one_div_le_one_div_of_le ha hle), rfl⟩

/-- upper one-sided confidence: the flipped confidence is lower one-sided, the reciprocal-space
    interval is `(-∞, b]` and, when `0 < b`, the result is `[1/b, +∞)` -/
theorem harmonic_upper (crit : Crit Rex) (l : Rex) (xs : List ℝ) (hpos : ∀ x ∈ xs, 0 < x)
    (b : Rex)
    (hJ : Arith.ci crit (Confidence.upper l).flipped ((xs.map (fun x => 1 / x)).map inj) =
      .ok (.lower b))
    (hb : 0 < b.val) :
    Harmonic.ci crit (.upper l) (xs.map inj) = .ok (.upper (⟨1 / b.val⟩ : Rex)) := by
  rw [harmonic_state crit _ xs hpos]
  exact ((harmonic_ciMean_recipBound crit _ l).2.1 b hJ).trans (by rw [recipBound_fl_pos b hb]; rfl)

/-- lower one-sided confidence: the flipped confidence is upper one-sided, the reciprocal-space
    interval is `[a, +∞)` and, when `0 < a`, the result is `(-∞, 1/a]` -/
theorem harmonic_lower (crit : Crit Rex) (l : Rex) (xs : List ℝ) (hpos : ∀ x ∈ xs, 0 < x)
    (a : Rex)
    (hJ : Arith.ci crit (Confidence.lower l).flipped ((xs.map (fun x => 1 / x)).map inj) =
      .ok (.upper a))
    (ha : 0 < a.val) :
    Harmonic.ci crit (.lower l) (xs.map inj) = .ok (.lower (⟨1 / a.val⟩ : Rex)) := by
  rw [harmonic_state crit _ xs hpos]
  exact ((harmonic_ciMean_recipBound crit _ l).2.2 a hJ).trans (by rw [recipBound_fl_pos a ha]; rfl)

/-- the three kinds together; in each the reciprocal-space bound that is used is strictly
    positive (two-sided: `0 < a` and `a ≤ b` give `0 < b` as well) -/
theorem harmonic (crit : Crit Rex) (l : Rex) (xs : List ℝ) (hpos : ∀ x ∈ xs, 0 < x) :
    (∀ a b : Rex,
      Arith.ci crit (Confidence.twoSided l).flipped ((xs.map (fun x => 1 / x)).map inj) =
        .ok (.twoSided a b) → 0 < a.val →
      Harmonic.ci crit (.twoSided l) (xs.map inj) =
        .ok (.twoSided (⟨1 / b.val⟩ : Rex) ⟨1 / a.val⟩)) ∧
    (∀ b : Rex,
      Arith.ci crit (Confidence.upper l).flipped ((xs.map (fun x => 1 / x)).map inj) =
        .ok (.lower b) → 0 < b.val →
      Harmonic.ci crit (.upper l) (xs.map inj) = .ok (.upper (⟨1 / b.val⟩ : Rex))) ∧
    (∀ a : Rex,
      Arith.ci crit (Confidence.lower l).flipped ((xs.map (fun x => 1 / x)).map inj) =
        .ok (.upper a) → 0 < a.val →
      Harmonic.ci crit (.lower l) (xs.map inj) = .ok (.lower (⟨1 / a.val⟩ : Rex))) :=
  ⟨fun a b hJ ha => harmonic_twoSided crit l xs hpos a b hJ ha,
   fun b hJ hb => harmonic_upper crit l xs hpos b hJ hb,
   fun a hJ ha => harmonic_lower crit l xs hpos a hJ ha⟩

/-- explicit one-sided bounds for `n ≥ 2` and a valid level, with `r = 1/x`:
    upper confidence gives `[1/(r̄ + c·s_r/√n), +∞)` when `r̄ + c·s_r/√n > 0`, lower gives
    `(-∞, 1/(r̄ - c·s_r/√n)]` when `r̄ - c·s_r/√n > 0`, the critical value being requested at the
    flipped confidence (same probability) -/
theorem harmonic_bounds_oneSided (crit : Crit Rex) (l : Rex) (xs : List ℝ)
    (hpos : ∀ x ∈ xs, 0 < x) (hn : 2 ≤ xs.length) (h0 : 0 < l.val) (h1 : l.val < 1) :
    (0 < smean (xs.map (fun x => 1 / x)) + halfWidth crit (.lower l) (xs.map (fun x => 1 / x)) →
      Harmonic.ci crit (.upper l) (xs.map inj) =
        .ok (.upper (⟨1 / (smean (xs.map (fun x => 1 / x)) +
          halfWidth crit (.lower l) (xs.map (fun x => 1 / x)))⟩ : Rex))) ∧
    (0 < smean (xs.map (fun x => 1 / x)) - halfWidth crit (.upper l) (xs.map (fun x => 1 / x)) →
      Harmonic.ci crit (.lower l) (xs.map inj) =
        .ok (.lower (⟨1 / (smean (xs.map (fun x => 1 / x)) -
          halfWidth crit (.upper l) (xs.map (fun x => 1 / x)))⟩ : Rex))) := by
  constructor
  · intro hb
    refine harmonic_upper crit l xs hpos ⟨_⟩ ?_ hb
    rw [show (Confidence.upper l).flipped = .lower l from rfl,
      Arith.ci_rex crit (.lower l) _ (by simpa using hn) (probOk_quantile (.lower l) h0 h1)]
    rfl
  · intro ha
    refine harmonic_lower crit l xs hpos ⟨_⟩ ?_ ha
    rw [show (Confidence.lower l).flipped = .upper l from rfl,
      Arith.ci_rex crit (.upper l) _ (by simpa using hn) (probOk_quantile (.upper l) h0 h1)]
    rfl

/-- explicit two-sided bounds when the half-width is non-negative and the reciprocal-space lower
    bound `r̄ - c·s_r/√n` is positive: `[1/(r̄ + h), 1/(r̄ - h)]` -/
theorem harmonic_bounds_twoSided (crit : Crit Rex) (l : Rex) (xs : List ℝ)
    (hpos : ∀ x ∈ xs, 0 < x) (hn : 2 ≤ xs.length) (h0 : 0 < l.val) (h1 : l.val < 1)
    (hh : 0 ≤ halfWidth crit (.twoSided l) (xs.map (fun x => 1 / x)))
    (hlo : 0 < smean (xs.map (fun x => 1 / x)) -
      halfWidth crit (.twoSided l) (xs.map (fun x => 1 / x))) :
    Harmonic.ci crit (.twoSided l) (xs.map inj) =
      .ok (.twoSided
        (⟨1 / (smean (xs.map (fun x => 1 / x)) +
          halfWidth crit (.twoSided l) (xs.map (fun x => 1 / x)))⟩ : Rex)
        ⟨1 / (smean (xs.map (fun x => 1 / x)) -
          halfWidth crit (.twoSided l) (xs.map (fun x => 1 / x)))⟩) := by
  refine harmonic_twoSided crit l xs hpos ⟨_⟩ ⟨_⟩ ?_ hlo
  rw [show (Confidence.twoSided l).flipped = .twoSided l from rfl,
    Arith.ci_rex crit (.twoSided l) _ (by simpa using hn) (probOk_quantile (.twoSided l) h0 h1),
    intervalOfKind_pm]
  exact if_pos hh

/-! ### 2b. harmonic: the branch where the reciprocal-space bound is not strictly positive

  Stated for *every* carrier `F`/`W` (so in particular for `f64`, where `posInf` is `+∞`; at `Rex`
  the field `posInf` is only the stand-in `⟨0⟩`, which is why the statements keep `posInf`
  symbolic). `gt r zero = false` covers `r ≤ 0` and, at a float carrier, an unordered `r`. -/

section branch
variable {F W : Type} [Scalar F] [Scalar W] [Widen F W]

/-- the reciprocal of a strictly positive reciprocal-space bound is `1/r` -/
theorem recipBound_pos (r : F) (h : gt r (zero : F) = true) :
    Harmonic.recipBound r = div one r :=
  Harmonic.recipBound_of_pos r h

/-- the reciprocal of a reciprocal-space bound that is not strictly positive is `+∞` -/
theorem recipBound_not_pos (r : F) (h : gt r (zero : F) = false) :
    Harmonic.recipBound r = posInf :=
  Harmonic.recipBound_of_not_pos r h

/-- lower one-sided confidence, reciprocal-space interval `[a, +∞)` with `a` not strictly
    positive: the result is `(-∞, +∞]` -/
theorem harmonic_lower_not_pos (crit : Crit W) (h : Harmonic F) (l : W) (a : F)
    (hJ : h.recip.ciMean crit (Confidence.lower l).flipped = .ok (.upper a))
    (ha : gt a (zero : F) = false) :
    h.ciMean crit (.lower l) = .ok (.lower (posInf : F)) := by
  rw [(harmonic_ciMean_recipBound crit h l).2.2 a hJ, recipBound_not_pos a ha]

/-- upper one-sided confidence, reciprocal-space interval `(-∞, b]` with `b` not strictly
    positive: the lower bound returned is `+∞` -/
theorem harmonic_upper_not_pos (crit : Crit W) (h : Harmonic F) (l : W) (b : F)
    (hJ : h.recip.ciMean crit (Confidence.upper l).flipped = .ok (.lower b))
    (hb : gt b (zero : F) = false) :
    h.ciMean crit (.upper l) = .ok (.upper (posInf : F)) := by
  rw [(harmonic_ciMean_recipBound crit h l).2.1 b hJ, recipBound_not_pos b hb]

/-- two-sided, reciprocal-space interval `[a, b]` with `a` not strictly positive and `b > 0`:
    `Interval::new(1/b, +∞)` -/
theorem harmonic_twoSided_straddle (crit : Crit W) (h : Harmonic F) (l : W) (a b : F)
    (hJ : h.recip.ciMean crit (Confidence.twoSided l).flipped = .ok (.twoSided a b))
    (ha : gt a (zero : F) = false) (hb : gt b (zero : F) = true) :
    h.ciMean crit (.twoSided l) = liftI (Interval.new (div one b) (posInf : F)) := by
  rw [(harmonic_ciMean_recipBound crit h l).1 a b hJ, recipBound_pos b hb, recipBound_not_pos a ha]

/-- two-sided, neither end of the reciprocal-space interval strictly positive:
    `Interval::new(+∞, +∞)` -/
theorem harmonic_twoSided_not_pos (crit : Crit W) (h : Harmonic F) (l : W) (a b : F)
    (hJ : h.recip.ciMean crit (Confidence.twoSided l).flipped = .ok (.twoSided a b))
    (ha : gt a (zero : F) = false) (hb : gt b (zero : F) = false) :
    h.ciMean crit (.twoSided l) = liftI (Interval.new (posInf : F) (posInf : F)) := by
  rw [(harmonic_ciMean_recipBound crit h l).1 a b hJ, recipBound_not_pos b hb,
    recipBound_not_pos a ha]

/-- and the positive branch for every carrier: `1/r` computed by the carrier's own division -/
theorem harmonic_ciMean_pos (crit : Crit W) (h : Harmonic F) (l : W) :
    (∀ a b : F, h.recip.ciMean crit (Confidence.twoSided l).flipped = .ok (.twoSided a b) →
      gt a (zero : F) = true → gt b (zero : F) = true →
      h.ciMean crit (.twoSided l) = liftI (Interval.new (div one b) (div one a))) ∧
    (∀ b : F, h.recip.ciMean crit (Confidence.upper l).flipped = .ok (.lower b) →
      gt b (zero : F) = true →
      h.ciMean crit (.upper l) = .ok (.upper (div one b))) ∧
    (∀ a : F, h.recip.ciMean crit (Confidence.lower l).flipped = .ok (.upper a) →
      gt a (zero : F) = true →
      h.ciMean crit (.lower l) = .ok (.lower (div one a))) := by
  refine ⟨fun a b hJ ha hb => ?_, fun b hJ hb => ?_, fun a hJ ha => ?_⟩
  · rw [(harmonic_ciMean_recipBound crit h l).1 a b hJ, recipBound_pos b hb, recipBound_pos a ha]
  · rw [(harmonic_ciMean_recipBound crit h l).2.1 b hJ, recipBound_pos b hb]
  · rw [(harmonic_ciMean_recipBound crit h l).2.2 a hJ, recipBound_pos a ha]

end branch

/-- the same branch for positive real data at `Rex`, in terms of the arithmetic interval of the
    reciprocals (`posInf : Rex` is the stand-in `⟨0⟩`; the content is in the generic statements) -/
theorem harmonic_not_pos (crit : Crit Rex) (l : Rex) (xs : List ℝ) (hpos : ∀ x ∈ xs, 0 < x) :
    (∀ a b : Rex,
      Arith.ci crit (Confidence.twoSided l).flipped ((xs.map (fun x => 1 / x)).map inj) =
        .ok (.twoSided a b) → a.val ≤ 0 → 0 < b.val →
      Harmonic.ci crit (.twoSided l) (xs.map inj) =
        liftI (Interval.new (⟨1 / b.val⟩ : Rex) posInf)) ∧
    (∀ b : Rex,
      Arith.ci crit (Confidence.upper l).flipped ((xs.map (fun x => 1 / x)).map inj) =
        .ok (.lower b) → b.val ≤ 0 →
      Harmonic.ci crit (.upper l) (xs.map inj) = .ok (.upper (posInf : Rex))) ∧
    (∀ a : Rex,
      Arith.ci crit (Confidence.lower l).flipped ((xs.map (fun x => 1 / x)).map inj) =
        .ok (.upper a) → a.val ≤ 0 →
      Harmonic.ci crit (.lower l) (xs.map inj) = .ok (.lower (posInf : Rex))) := by
  refine ⟨?_, ?_, ?_⟩
  · intro a b hJ ha hb
    have hb' : (div one b : Rex) = ⟨1 / b.val⟩ := by apply RR.ext'; simp
    rw [harmonic_state crit _ xs hpos, ← hb']
    exact harmonic_twoSided_straddle crit _ l a b hJ ((RR.gt_eq_false_iff _ _).mpr ha)
      ((RR.gt_iff _ _).mpr hb)
  · intro b hJ hb
    rw [harmonic_state crit _ xs hpos]
    exact harmonic_upper_not_pos crit _ l b hJ ((RR.gt_eq_false_iff _ _).mpr hb)
  · intro a hJ ha
    rw [harmonic_state crit _ xs hpos]
    exact harmonic_lower_not_pos crit _ l a hJ ((RR.gt_eq_false_iff _ _).mpr ha)

/-! ### 3. the sample means -/

/-- positive data are accepted; `Geometric::sample_mean()` is `exp(mean ln x)` and
    `Harmonic::sample_mean()` is `1/(mean 1/x)` -/
theorem means (xs : List ℝ) (hpos : ∀ x ∈ xs, 0 < x) :
    (∃ g : Geometric Rex,
      (Geometric.fromList (xs.map inj) : Outcome (Err Rex) (Geometric Rex)) = .ok g ∧
      g.logs = Arith.fromList ((xs.map Real.log).map inj) ∧
      g.mean.val = Real.exp (smean (xs.map Real.log))) ∧
    (∃ h : Harmonic Rex,
      (Harmonic.fromList (xs.map inj) : Outcome (Err Rex) (Harmonic Rex)) = .ok h ∧
      h.recip = Arith.fromList ((xs.map (fun x => 1 / x)).map inj) ∧
      h.mean.val = 1 / smean (xs.map (fun x => 1 / x))) := by
  constructor
  · refine ⟨_, Geometric.fromList_rex xs hpos, rfl, ?_⟩
    simp only [Geometric.mean, RR.exp_val, id_eq, Arith.fromList_mean]
  · refine ⟨_, Harmonic.fromList_rex xs hpos, rfl, ?_⟩
    simp only [Harmonic.mean, RR.div_val, RR.one_val, id_eq, Arith.fromList_mean]

/-! ### 4. harmonic ≤ geometric ≤ arithmetic -/

/-- the sample means of the three model states built from the same non-empty positive data -/
theorem hm_le_gm_le_am (xs : List ℝ) (hne : xs ≠ []) (hpos : ∀ x ∈ xs, 0 < x) :
    ∃ (h : Harmonic Rex) (g : Geometric Rex),
      (Harmonic.fromList (xs.map inj) : Outcome (Err Rex) (Harmonic Rex)) = .ok h ∧
      (Geometric.fromList (xs.map inj) : Outcome (Err Rex) (Geometric Rex)) = .ok g ∧
      h.mean.val ≤ g.mean.val ∧
      g.mean.val ≤ (Arith.fromList (xs.map inj) : Arith Rex).mean.val := by
  obtain ⟨⟨g, hg, -, hgm⟩, h, hh, -, hhm⟩ := means xs hpos
  refine ⟨h, g, hh, hg, ?_, ?_⟩
  · rw [hhm, hgm]
    exact hm_le_gm xs hne hpos
  · rw [hgm, Arith.fromList_mean]
    exact gm_le_am xs hne hpos

/-- the real inequality itself -/
theorem hm_le_gm_le_am_real (xs : List ℝ) (hne : xs ≠ []) (hpos : ∀ x ∈ xs, 0 < x) :
    1 / smean (xs.map (fun x => 1 / x)) ≤ Real.exp (smean (xs.map Real.log)) ∧
      Real.exp (smean (xs.map Real.log)) ≤ smean xs :=
  ⟨hm_le_gm xs hne hpos, gm_le_am xs hne hpos⟩

/-! ### 5. standard errors (delta method) -/

/-- `Geometric::sample_sem()` is `G · sd(ln x)/√(n-1)` and `Harmonic::sample_sem()` is
    `H² · sd(1/x)/√(n-1)` (`n ≥ 2`; note the crate's `√(n-1)`) -/
theorem sem (xs : List ℝ) (hn : 2 ≤ xs.length) :
    (⟨Arith.fromList ((xs.map Real.log).map inj)⟩ : Geometric Rex).sem.val =
      Real.exp (smean (xs.map Real.log)) * ssd (xs.map Real.log) /
        Real.sqrt ((xs.length : ℝ) - 1) ∧
    (⟨Arith.fromList ((xs.map (fun x => 1 / x)).map inj)⟩ : Harmonic Rex).sem.val =
      (1 / smean (xs.map (fun x => 1 / x))) * (1 / smean (xs.map (fun x => 1 / x))) *
        ssd (xs.map (fun x => 1 / x)) / Real.sqrt ((xs.length : ℝ) - 1) := by
  constructor
  · simp only [Geometric.sem, Geometric.mean, RR.div_val, RR.mul_val, RR.exp_val, RR.sqrt_val,
      RR.ofNat_val, id_eq, Arith.fromList_mean, MeanRound.fromList_count', List.length_map,
      Arith.fromList_stdDev _ (show 2 ≤ (xs.map Real.log).length by simpa using hn),
      Nat.cast_pred (show 0 < xs.length by omega)]
  · simp only [Harmonic.sem, Harmonic.mean, RR.div_val, RR.mul_val, RR.one_val, RR.sqrt_val,
      RR.ofNat_val, id_eq, Arith.fromList_mean, MeanRound.fromList_count', List.length_map,
      Arith.fromList_stdDev _ (show 2 ≤ (xs.map (fun x => 1 / x)).length by simpa using hn),
      Nat.cast_pred (show 0 < xs.length by omega)]

/-! ### 6. rejection of non-positive values (every carrier) -/

section reject
variable {F W : Type} [Scalar F] [Scalar W] [Widen F W]

/-- `append` of a value `x <= 0` returns `NonPositiveValue(x)`; nothing else is returned, so the
    caller's state is the one it had (the model's `append` is a pure function of the state) -/
theorem reject_append (h : Harmonic F) (g : Geometric F) (x : F) (hx : le x (zero : F) = true) :
    (Harmonic.append h x : Outcome (Err W) (Harmonic F)) = .err (.nonPositiveValue (Widen.up x)) ∧
    (Geometric.append g x : Outcome (Err W) (Geometric F)) =
      .err (.nonPositiveValue (Widen.up x)) := by
  simp [Harmonic.append, Geometric.append, hx]

/-- `extend` stops at the first rejected value wherever it stands: the error names that value and
    the state left behind is exactly the state after the accepted prefix -/
theorem reject_extend_harmonic (h : Harmonic F) (pre post : List F) (x : F)
    (hpre : ∀ y ∈ pre, le y (zero : F) = false) (hx : le x (zero : F) = true) :
    (Harmonic.extend h (pre ++ x :: post) : Outcome (Err W) (Harmonic F) × Harmonic F) =
      (.err (.nonPositiveValue (Widen.up x)),
        (Harmonic.extend h pre : Outcome (Err W) (Harmonic F) × Harmonic F).2) ∧
    (Harmonic.extend h pre : Outcome (Err W) (Harmonic F) × Harmonic F) =
      (.ok ⟨h.recip.extend (pre.map (fun y => div one y))⟩,
        ⟨h.recip.extend (pre.map (fun y => div one y))⟩) := by
  have e := Harmonic.extend_append (W := W) h pre
  have e0 := e [] hpre
  rw [List.append_nil] at e0
  rw [e (x :: post) hpre, Harmonic.extend_cons, hx, e0]
  exact ⟨rfl, rfl⟩

theorem reject_extend_geometric (g : Geometric F) (pre post : List F) (x : F)
    (hpre : ∀ y ∈ pre, le y (zero : F) = false) (hx : le x (zero : F) = true) :
    (Geometric.extend g (pre ++ x :: post) : Outcome (Err W) (Geometric F) × Geometric F) =
      (.err (.nonPositiveValue (Widen.up x)),
        (Geometric.extend g pre : Outcome (Err W) (Geometric F) × Geometric F).2) ∧
    (Geometric.extend g pre : Outcome (Err W) (Geometric F) × Geometric F) =
      (.ok ⟨g.logs.extend (pre.map ln)⟩, ⟨g.logs.extend (pre.map ln)⟩) := by
  have e := Geometric.extend_append (W := W) g pre
  have e0 := e [] hpre
  rw [List.append_nil] at e0
  rw [e (x :: post) hpre, Geometric.extend_cons, hx, e0]
  exact ⟨rfl, rfl⟩

/-- all of item 6 for both means -/
theorem reject (h : Harmonic F) (g : Geometric F) (pre post : List F) (x : F)
    (hpre : ∀ y ∈ pre, le y (zero : F) = false) (hx : le x (zero : F) = true) :
    (Harmonic.append h x : Outcome (Err W) (Harmonic F)) = .err (.nonPositiveValue (Widen.up x)) ∧
    (Geometric.append g x : Outcome (Err W) (Geometric F)) =
      .err (.nonPositiveValue (Widen.up x)) ∧
    (Harmonic.extend h (pre ++ x :: post) : Outcome (Err W) (Harmonic F) × Harmonic F) =
      (.err (.nonPositiveValue (Widen.up x)),
        (Harmonic.extend h pre : Outcome (Err W) (Harmonic F) × Harmonic F).2) ∧
    (Geometric.extend g (pre ++ x :: post) : Outcome (Err W) (Geometric F) × Geometric F) =
      (.err (.nonPositiveValue (Widen.up x)),
        (Geometric.extend g pre : Outcome (Err W) (Geometric F) × Geometric F).2) :=
  ⟨(reject_append h g x hx).1, (reject_append h g x hx).2,
   (reject_extend_harmonic h pre post x hpre hx).1,
   (reject_extend_geometric g pre post x hpre hx).1⟩

/-- hence `ci` on data containing a non-positive value reports the first one -/
theorem reject_ci (crit : Crit W) (conf : Confidence W) (pre post : List F) (x : F)
    (hpre : ∀ y ∈ pre, le y (zero : F) = false) (hx : le x (zero : F) = true) :
    Harmonic.ci crit conf (pre ++ x :: post) = .err (.nonPositiveValue (Widen.up x)) ∧
    Geometric.ci crit conf (pre ++ x :: post) = .err (.nonPositiveValue (Widen.up x)) :=
  ⟨Harmonic.ci_of_nonpos crit conf pre x post hpre hx,
    Geometric.ci_of_nonpos crit conf pre x post hpre hx⟩

end reject

/-- at `Rex` the test `x <= 0` is the real comparison (`-0 = 0` is rejected) -/
theorem reject_iff (x : Rex) : le x (zero : Rex) = true ↔ x.val ≤ 0 := by simp

/-! ### non-vacuity -/

example : ∀ x ∈ [(1 : ℝ), 2, 4], 0 < x := by simp only [List.forall_mem_cons]; norm_num

example : [(1 : ℝ), 2, 4] ≠ [] ∧ 2 ≤ [(1 : ℝ), 2, 4].length := by simp

example : le (inj (-1) : Rex) (zero : Rex) = true ∧
    (∀ y ∈ [(inj 1 : Rex), inj 2], le y (zero : Rex) = false) := by
  refine ⟨(RR.le_iff _ _).mpr (by show (-1 : ℝ) ≤ 0; norm_num), ?_⟩
  exact accepted_of_pos (fl := id) [1, 2] (by simp only [List.forall_mem_cons]; norm_num)

/-- positive branch, concrete: data `1, 1/3` (reciprocals `1, 3`: mean 2, `s/√n = 1`), constant
    critical value 1: the reciprocal-space interval is `[1, 3]` with `0 < 1`, so the hypotheses of
    `harmonic_twoSided` hold and the harmonic interval is `[1/3, 1]` -/
example : Harmonic.ci (constCrit 1) (.twoSided (⟨1 / 2⟩ : Rex)) ([(1 : ℝ), 1 / 3].map inj) =
    .ok (.twoSided (⟨1 / (2 + 1)⟩ : Rex) ⟨1 / (2 - 1)⟩) := by
  refine harmonic_twoSided (constCrit 1) ⟨1 / 2⟩ [1, 1 / 3] ?_ ⟨2 - 1⟩ ⟨2 + 1⟩
    (Arith.ci_recip_one_third 1 (by norm_num) ⟨1 / 2⟩ (by norm_num) (by norm_num)) (by norm_num)
  simp only [List.forall_mem_cons]; norm_num

/-- the other branch, concrete: same data, constant critical value 3: the reciprocal-space interval
    is `[-1, 5]`, so the hypotheses of the two-sided part of `harmonic_not_pos` (and of
    `harmonic_twoSided_straddle` at `Rex`) hold: the model hands `(1/5, posInf)` to `Interval::new` -/
example : Harmonic.ci (constCrit 3) (.twoSided (⟨1 / 2⟩ : Rex)) ([(1 : ℝ), 1 / 3].map inj) =
    liftI (Interval.new (⟨1 / (⟨2 + 3⟩ : Rex).val⟩ : Rex) posInf) := by
  refine (harmonic_not_pos (constCrit 3) ⟨1 / 2⟩ [1, 1 / 3] ?_).1 ⟨2 - 3⟩ ⟨2 + 3⟩
    (Arith.ci_recip_one_third 3 (by norm_num) ⟨1 / 2⟩ (by norm_num) (by norm_num)) (by norm_num)
    (by norm_num)
  simp only [List.forall_mem_cons]; norm_num

/-- the branch is visible at the carrier `XR = ℝ ∪ {NaN, ±∞}`: a negative, zero or NaN
    reciprocal-space bound is read as `+∞`, a positive one as `1/r` -/
example : Harmonic.recipBound (XR.fin (-1)) = XR.pinf ∧ Harmonic.recipBound (XR.fin 0) = XR.pinf ∧
    Harmonic.recipBound XR.nan = XR.pinf ∧ Harmonic.recipBound (XR.fin 4) = XR.fin (1 / 4) := by
  refine ⟨?_, ?_, ?_, ?_⟩ <;> simp [Harmonic.recipBound]

/-- and there `Interval::new(1/b, +∞)` of `harmonic_twoSided_straddle` is accepted: `[1/5, +∞]` -/
example : gt (XR.fin (-1)) (zero : XR) = false ∧ gt (XR.fin 5) (zero : XR) = true ∧
    (liftI (Interval.new (div one (XR.fin 5)) (posInf : XR)) : Outcome (Err XR) (Interval XR)) =
      .ok (.twoSided (XR.fin (1 / 5)) XR.pinf) := by
  refine ⟨?_, ?_, ?_⟩ <;> simp [Interval.new, liftI]

end StatsCI.C05
