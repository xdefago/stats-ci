/-
  C07 — Interval predicates are exactly the set relations of the denoted closed sets.

  Stated over the model functions of `StatsCI.Model.Interval` themselves, with the comparison
  operations of an arbitrary linear order.
-/
import StatsCI.Lemmas.Order

namespace StatsCI.C07
open StatsCI Interval Set
variable {α : Type} [LinearOrder α]
attribute [local instance] Cmp.ofLinearOrder

theorem contains_iff (i : Interval α) (x : α) : i.contains x = true ↔ x ∈ i.den := by
  cases i <;> simp [contains, den]

theorem rangeContains_iff (i : Interval α) (x : α) : i.rangeContains x = true ↔ x ∈ i.den := by
  cases i <;> simp [rangeContains, startBound, endBound, left, right, den]

theorem rangeContains_eq_contains (i : Interval α) (x : α) : i.rangeContains x = i.contains x := by
  rw [Bool.eq_iff_iff, rangeContains_iff, contains_iff]

theorem intersects_iff (a b : Interval α) (ha : a.WF) (hb : b.WF) :
    a.intersects b = true ↔ (a.den ∩ b.den).Nonempty := by
  cases a <;> cases b <;> simp only [intersects, den, WF] at *
  case twoSided.twoSided x y u v =>
    simp only [Bool.and_eq_true, cmp_le_iff]
    constructor
    · rintro ⟨h1, h2⟩
      exact ⟨max x u, ⟨le_max_left _ _, max_le ha h2⟩, ⟨le_max_right _ _, max_le h1 hb⟩⟩
    · rintro ⟨z, ⟨h1, h2⟩, ⟨h3, h4⟩⟩
      exact ⟨h1.trans h4, h3.trans h2⟩
  case twoSided.upper x y z =>
    simp only [cmp_le_iff]
    constructor
    · intro h; exact ⟨y, ⟨ha, le_rfl⟩, h⟩
    · rintro ⟨w, ⟨_, h2⟩, h3⟩; exact le_trans h3 h2
  case twoSided.lower x y z =>
    simp only [cmp_le_iff]
    constructor
    · intro h; exact ⟨x, ⟨le_rfl, ha⟩, h⟩
    · rintro ⟨w, ⟨h1, _⟩, h3⟩; exact le_trans h1 h3
  case upper.twoSided x u v =>
    simp only [cmp_le_iff]
    constructor
    · intro h; exact ⟨v, h, ⟨hb, le_rfl⟩⟩
    · rintro ⟨w, h1, ⟨_, h3⟩⟩; exact le_trans h1 h3
  case upper.upper x y =>
    simp only [true_iff]
    exact ⟨max x y, le_max_left _ _, le_max_right _ _⟩
  case upper.lower x y =>
    simp only [cmp_le_iff]
    constructor
    · intro h; exact ⟨x, le_rfl, h⟩
    · rintro ⟨w, h1, h2⟩; exact le_trans h1 h2
  case lower.twoSided x u v =>
    simp only [cmp_le_iff]
    constructor
    · intro h; exact ⟨u, h, ⟨le_rfl, hb⟩⟩
    · rintro ⟨w, h1, ⟨h2, _⟩⟩; exact le_trans h2 h1
  case lower.upper x y =>
    simp only [cmp_le_iff]
    constructor
    · intro h; exact ⟨y, h, le_rfl⟩
    · rintro ⟨w, h1, h2⟩; exact le_trans h2 h1
  case lower.lower x y =>
    simp only [true_iff]
    exact ⟨min x y, min_le_left _ _, min_le_right _ _⟩

theorem intersects_symm (a b : Interval α) : a.intersects b = b.intersects a := by
  cases a <;> cases b <;> simp [intersects, Bool.and_comm]

/-- the arms of `includes` that compare bounds are the superset relation in *every* linear order,
    bounded or not (machine integers included) -/
theorem includes_iff_same_shape (a b : Interval α) (hb : b.WF)
    (hshape : (a.isTwoSided = true → b.isTwoSided = true) ∧ (a.isUpper = true → b.isLower = false) ∧
      (a.isLower = true → b.isUpper = false)) :
    a.includes b = true ↔ b.den ⊆ a.den := by
  cases a <;> cases b <;>
    simp_all [includes, den, WF, isTwoSided, isUpper, isLower, Icc_subset_Icc_iff,
      Icc_subset_Ici_iff, Icc_subset_Iic_iff]

/-- The four arms that answer `false` outright (a one-sided interval inside a two-sided one, or
    inside one of the opposite direction) are right because the order is unbounded on that side. -/
theorem includes_iff [NoMaxOrder α] [NoMinOrder α] (a b : Interval α) (ha : a.WF) (hb : b.WF) :
    a.includes b = true ↔ b.den ⊆ a.den := by
  by_cases hs : (a.isTwoSided = true → b.isTwoSided = true) ∧
      (a.isUpper = true → b.isLower = false) ∧ (a.isLower = true → b.isUpper = false)
  · exact includes_iff_same_shape a b hb hs
  -- otherwise `b` has members beyond a bound of `a`
  · cases a <;> cases b <;> simp [isTwoSided, isUpper, isLower] at hs <;>
      simp only [includes, Bool.false_eq_true, false_iff] <;> intro h
    case twoSided.upper x y z =>
      obtain ⟨w, hw, hlt⟩ := exists_mem_gt_of_right_none (A := .upper z) rfl y
      exact hlt.not_ge (h hw).2
    case twoSided.lower x y z =>
      obtain ⟨w, hw, hlt⟩ := exists_mem_lt_of_left_none (A := .lower z) rfl x
      exact hlt.not_ge (h hw).1
    case upper.lower x z =>
      obtain ⟨w, hw, hlt⟩ := exists_mem_lt_of_left_none (A := .lower z) rfl x
      exact hlt.not_ge (h hw)
    case lower.upper y z =>
      obtain ⟨w, hw, hlt⟩ := exists_mem_gt_of_right_none (A := .upper z) rfl y
      exact hlt.not_ge (h hw)

theorem isIncludedIn_iff [NoMaxOrder α] [NoMinOrder α] (a b : Interval α) (ha : a.WF) (hb : b.WF) :
    a.isIncludedIn b = true ↔ a.den ⊆ b.den := by
  unfold isIncludedIn; exact includes_iff b a hb ha

theorem intersects_of_shared_endpoint (x y z : α) (h1 : x ≤ y) (h2 : y ≤ z) :
    (Interval.twoSided x y).intersects (.twoSided y z) = true := by
  simp [intersects, h1.trans h2]

example : (Interval.twoSided (1 : ℤ) 3).WF ∧ (Interval.lower (2 : ℤ)).WF ∧
    (Interval.twoSided (1 : ℤ) 3).intersects (.lower 2) = true ∧
    (Interval.twoSided (5 : ℤ) 6).intersects (.lower 4) = false ∧
    (Interval.upper (0 : ℤ)).includes (.twoSided 5 6) = true := by
  refine ⟨by simp [WF], by simp [WF], by decide, by decide, by decide⟩

end StatsCI.C07
