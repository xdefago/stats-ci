/-
  C09 — Incremental, chunked, merged (and hence parallel) accumulation equals the batch result.

  An accumulation history is a `Prog` (Model/Program.lean): any tree over
  {new, append, extend/from_iter, +, +=}. A parallel reduction is *some* such tree over *some*
  arrangement of the chunks; the theorems quantify over all trees and all permutations of the
  data, so every schedule is covered at the model level.
-/
import StatsCI.Properties.C08
import StatsCI.Lemmas.EntryPoints

namespace StatsCI.C09
open StatsCI KahanLemmas

/-! ### 1. Counts -/

/-- **Count.** For every carrier (operations only, no arithmetic laws) and every history, the
    `count` of the `Arithmetic` state is the number of observations delivered. -/
theorem count {α : Type} [Scalar α] (p : Prog α) : p.evalA.count = p.data.length :=
  (evalA_fields p).2.2

/-! ### 2. Exact arithmetic: the observable state is that of the batch -/

/-- **Exact state.** At `fl = id` the observable state `(Σx, Σx², n)` of every history is the
    exact one (and both compensations are `0`). -/
theorem exact_state (p : Prog ℝ) :
    ((p.map inj).evalA : Arith Rex).sum.value.val = p.data.sum ∧
    ((p.map inj).evalA : Arith Rex).sumSq.value.val = (p.data.map fun x => x * x).sum ∧
    ((p.map inj).evalA : Arith Rex).count = p.data.length := by
  obtain ⟨h1, h2, h3, _, _⟩ := evalA_exact p
  exact ⟨h1, h2, h3⟩

/-- **Batch equality.** At `fl = id`, two histories delivering the same multiset of observations
    (in any order, with any chunking and any merge tree) agree on every query: count, the two
    register values, mean, variance (both the total form and the `Option` form that models the
    `usize` underflow on the empty state), standard deviation, standard error, and the confidence
    interval for every critical-value oracle and every confidence. -/
theorem batch_eq (p q : Prog ℝ) (h : p.data.Perm q.data) :
    let a : Arith Rex := (p.map inj).evalA
    let b : Arith Rex := (q.map inj).evalA
    a.sampleCount = b.sampleCount ∧ a.sum.value = b.sum.value ∧ a.sumSq.value = b.sumSq.value ∧
    a.mean = b.mean ∧ a.variance = b.variance ∧ a.variance? = b.variance? ∧
    a.stdDev = b.stdDev ∧ a.sem = b.sem ∧
    ∀ (crit : Crit Rex) (conf : Confidence Rex),
      Arith.ciMean crit a conf = Arith.ciMean crit b conf := by
  intro a b
  obtain ⟨a1, a2, a3⟩ := exact_state p
  obtain ⟨b1, b2, b3⟩ := exact_state q
  have h1 : a.sum.value = b.sum.value := by
    apply RR.ext'; rw [a1, b1]; exact h.sum_eq
  have h2 : a.sumSq.value = b.sumSq.value := by
    apply RR.ext'; rw [a2, b2]; exact (h.map _).sum_eq
  have h3 : a.count = b.count := by rw [a3, b3]; exact h.length_eq
  obtain ⟨c1, c2⟩ := Arith.obs_congr (W := Rex) a b h1 h2 h3
  exact ⟨c1, h1, h2, c2⟩

/-- in particular every history agrees with `Arithmetic::from_iter` of any enumeration of the
    multiset it delivered -/
theorem batch_eq_fromList (p : Prog ℝ) (ys : List ℝ) (h : p.data.Perm ys) :
    let a : Arith Rex := (p.map inj).evalA
    let b : Arith Rex := Arith.fromList (ys.map inj)
    a.sampleCount = b.sampleCount ∧ a.sum.value = b.sum.value ∧ a.sumSq.value = b.sumSq.value ∧
    a.mean = b.mean ∧ a.variance = b.variance ∧ a.variance? = b.variance? ∧
    a.stdDev = b.stdDev ∧ a.sem = b.sem ∧
    ∀ (crit : Crit Rex) (conf : Confidence Rex),
      Arith.ciMean crit a conf = Arith.ciMean crit b conf := by
  have h' : p.data.Perm (Prog.extend Prog.empty ys).data := by simpa [Prog.data] using h
  exact batch_eq p (Prog.extend Prog.empty ys) h'

/-- non-vacuity: a merge of two chunks against the batch over a different order -/
example : (Prog.merge (Prog.append (Prog.append Prog.empty (1 : ℝ)) 2)
      (Prog.extend Prog.empty [3, 4])).data.Perm [3, 4, 1, 2] := by
  simp only [Prog.data, List.nil_append, List.cons_append]
  exact List.perm_append_comm (l₁ := [1, 2]) (l₂ := [3, 4])

/-! ### 3. Rounded arithmetic: any two histories of the same multiset are close -/

section rounded
variable {fl : ℝ → ℝ} {u : ℝ}

/-- **Rounded, general budgets.** For admissible `fl`, two histories delivering permutations of
    the same data and satisfying the node-wise side condition of C08 have `sum.value()` within the
    sum of their C08 bounds `Eb + 8u·Tb`. -/
theorem rounded (hu : 0 ≤ u) (hu' : u ≤ 1 / 64) (hfl : ∀ x, |fl x - x| ≤ u * |x|)
    (p q : Prog ℝ) (h : p.data.Perm q.data) (hp : Ok u p) (hq : Ok u q) :
    |((p.map inj).evalA : Arith (RR fl)).sum.value.val
        - ((q.map inj).evalA : Arith (RR fl)).sum.value.val|
      ≤ (Eb u p + 8 * u * Tb u p) + (Eb u q + 8 * u * Tb u q) := by
  rw [(evalA_fields _).1, (evalA_fields _).1]
  exact Rounding.trans_close (C08.program hu hu' hfl p hp).2
    ((abs_sub_comm _ _).trans_le (h.sum_eq ▸ (C08.program hu hu' hfl q hq).2))

/-- **Rounded, closed form.** With `steps·u ≤ 1` and `(rdepth + 1)·u ≤ 1/128` for both
    histories, the two `sum.value()` differ by at most
    `((24 + 10·(rdepth p + rdepth q))·u + 12·(steps p + steps q)·u²)·Σ|x|`. -/
theorem rounded_closed (hu : 0 ≤ u) (hfl : ∀ x, |fl x - x| ≤ u * |x|)
    (p q : Prog ℝ) (h : p.data.Perm q.data)
    (hnp : (p.steps : ℝ) * u ≤ 1) (hdp : ((p.rdepth : ℝ) + 1) * u ≤ 1 / 128)
    (hnq : (q.steps : ℝ) * u ≤ 1) (hdq : ((q.rdepth : ℝ) + 1) * u ≤ 1 / 128) :
    |((p.map inj).evalA : Arith (RR fl)).sum.value.val
        - ((q.map inj).evalA : Arith (RR fl)).sum.value.val|
      ≤ ((24 + 10 * (p.rdepth + q.rdepth)) * u + 12 * (p.steps + q.steps) * u ^ 2)
          * (p.data.map abs).sum := by
  rw [(evalA_fields _).1, (evalA_fields _).1]
  have h1 := C08.program_closed hu hfl p hnp hdp
  have h2 := C08.program_closed hu hfl q hnq hdq
  rw [← h.sum_eq, ← (h.map abs).sum_eq] at h2
  exact (Rounding.trans_close h1 ((abs_sub_comm _ _).trans_le h2)).trans_eq (by ring)

/-- **Rounded, sum of squares.** The `sum_sq` register accumulates the *rounded* squares
    `fl (x·x)`; two histories of the same multiset differ in `sum_sq.value()` by at most the same
    closed-form factor times `Σ |fl (x·x)|`. -/
theorem rounded_closed_sumSq (hu : 0 ≤ u) (hfl : ∀ x, |fl x - x| ≤ u * |x|)
    (p q : Prog ℝ) (h : p.data.Perm q.data)
    (hnp : (p.steps : ℝ) * u ≤ 1) (hdp : ((p.rdepth : ℝ) + 1) * u ≤ 1 / 128)
    (hnq : (q.steps : ℝ) * u ≤ 1) (hdq : ((q.rdepth : ℝ) + 1) * u ≤ 1 / 128) :
    |((p.map inj).evalA : Arith (RR fl)).sumSq.value.val
        - ((q.map inj).evalA : Arith (RR fl)).sumSq.value.val|
      ≤ ((24 + 10 * (p.rdepth + q.rdepth)) * u + 12 * (p.steps + q.steps) * u ^ 2)
          * (p.data.map fun x => |fl (x * x)|).sum := by
  have key : ∀ r : Prog ℝ, ((r.map inj).evalA : Arith (RR fl)).sumSq
      = ((r.map fun x => fl (x * x)).map inj).evalA.sum := by
    intro r
    rw [(evalA_fields _).2.1, (evalA_fields _).1, map_inj_map_sq]
  rw [key p, key q]
  have h' : (p.map fun x => fl (x * x)).data.Perm (q.map fun x => fl (x * x)).data := by
    rw [data_map, data_map]; exact h.map _
  have := rounded_closed hu hfl (p.map fun x => fl (x * x)) (q.map fun x => fl (x * x)) h'
    (by rwa [steps_map]) (by rwa [rdepth_map]) (by rwa [steps_map]) (by rwa [rdepth_map])
  simpa [steps_map, rdepth_map, data_map, List.map_map, Function.comp_def] using this

/-- non-vacuity: two different merge trees over two arrangements of the same four numbers -/
example : let p : Prog ℝ := .merge (.extend .empty [1, -2]) (.extend .empty [3, 4])
    let q : Prog ℝ := .append (.merge (.extend .empty [3, 4]) (.append .empty 1)) (-2)
    p.data.Perm q.data ∧ (p.steps : ℝ) * (1 / 1024) ≤ 1 ∧
    ((p.rdepth : ℝ) + 1) * (1 / 1024) ≤ 1 / 128 ∧ (q.steps : ℝ) * (1 / 1024) ≤ 1 ∧
    ((q.rdepth : ℝ) + 1) * (1 / 1024) ≤ 1 / 128 := by
  have hn : ∀ n : ℕ, n ≤ 6 → (n : ℝ) * (1 / 1024) ≤ 1 := fun n h => by
    linear_combination 1 / 1024 * (Nat.cast_le (α := ℝ)).mpr h
  have hd : ∀ d : ℕ, d ≤ 1 → ((d : ℝ) + 1) * (1 / 1024) ≤ 1 / 128 := fun d h => by
    linear_combination 1 / 1024 * (Nat.cast_le (α := ℝ)).mpr h
  refine ⟨?_, hn _ (by decide), hd _ (by decide), hn _ (by decide), hd _ (by decide)⟩
  simp only [Prog.data, List.nil_append, List.cons_append]
  exact List.perm_append_comm (l₁ := [1, -2]) (l₂ := [3, 4])

/-- non-vacuity of `rounded`: both histories satisfy the node-wise side condition at `u = 2⁻¹⁰`
    (admissible pairs `(fl, u)` with `fl ≠ id` are exhibited in `Properties/C08.lean`) -/
example : Ok (1 / 1024) (.merge (.extend .empty [1, -2]) (.extend .empty [3, 4]) : Prog ℝ) ∧
    Ok (1 / 1024) (.append (.merge (.extend .empty [3, 4]) (.append .empty 1)) (-2) : Prog ℝ) := by
  have h : ∀ p : Prog ℝ, p.rdepth ≤ 1 → p.steps ≤ 6 → Ok (1 / 1024) p := fun p hd hn =>
    (budget_closed (by norm_num) (by norm_num) p
      ((eps_mono (by norm_num) hd hn).trans (by norm_num [eps]))).1
  exact ⟨h _ (by decide) (by decide), h _ (by decide) (by decide)⟩

end rounded

/-! ### 4. Count-like states are component-wise sums -/

open Proportion in
/-- **Proportion state.** Every history of Boolean observations ends in
    `(number of observations, number of successes)`. -/
theorem counts_are_sums (p : Prog Bool) : p.evalP = ⟨p.data.length, p.data.count true⟩ := by
  induction p with
  | empty => rfl
  | append p b ih =>
    simp only [Prog.evalP, Prog.data, ih, Stats.push_eq, List.length_append, List.count_append,
      List.length_singleton]
  | extend p bs ih =>
    simp only [Prog.evalP, Prog.data, ih, Stats.extend_eq]
    simp
  | merge l r ihl ihr =>
    simp only [Prog.evalP, Prog.data, ihl, ihr, Stats.merge]
    simp

open Proportion in
/-- hence histories delivering permutations of the same data reach the same state -/
theorem evalP_perm (p q : Prog Bool) (h : p.data.Perm q.data) : p.evalP = q.evalP := by
  rw [counts_are_sums, counts_are_sums, h.length_eq, h.count_eq]

open Proportion in
theorem stats_merge_assoc (a b c : Stats) : (a.merge b).merge c = a.merge (b.merge c) := by
  simp [Stats.merge, Nat.add_assoc]

open Proportion in
theorem stats_merge_comm (a b : Stats) : a.merge b = b.merge a := by
  simp [Stats.merge, Nat.add_comm]

open Proportion in
theorem stats_merge_empty_right (a : Stats) : a.merge Stats.empty = a := by
  cases a; simp [Stats.merge, Stats.empty]

open Proportion in
theorem stats_merge_empty_left (a : Stats) : Stats.empty.merge a = a := by
  cases a; simp [Stats.merge, Stats.empty]

/-- **Quantile state.** The population count reached by a history is the number of
    observations. -/
theorem evalCount_eq (p : Prog Unit) : p.evalCount = p.data.length := by
  induction p <;> simp [Prog.evalCount, Prog.data, *]

/-! ### 5. The empty state is neutral (exactly for counts and at `fl = id`; up to rounding otherwise) -/

/-- **Neutral, count.** Merging with the empty `Arithmetic` state on either side leaves `count`
    unchanged (any carrier). -/
theorem neutral_count {α : Type} [Scalar α] (a : Arith α) :
    (a.merge Arith.empty).count = a.count ∧ (Arith.empty.merge a).count = a.count := by
  simp [Arith.merge, Arith.empty]

/-- **Neutral, exact arithmetic, registers.** At `fl = id` the empty register is left-neutral for
    the value of *every* register; merged on the right it yields `sum − comp`, which is the value
    `sum + comp` exactly when the compensation is `0`. -/
theorem neutral_exact_register (k : Kahan Rex) :
    ((Kahan.empty : Kahan Rex).merge k).value.val = k.value.val ∧
    (k.merge Kahan.empty).value.val = k.sum.val - k.comp.val ∧
    (k.comp.val = 0 → (k.merge Kahan.empty).value.val = k.value.val) := by
  obtain ⟨h1, h2⟩ := merge_exact (Kahan.empty : Kahan Rex) k
  obtain ⟨h3, h4⟩ := merge_exact k (Kahan.empty : Kahan Rex)
  have hr : (k.merge Kahan.empty).value.val = k.sum.val - k.comp.val := by
    rw [value_val, h3, h4]; simp
  refine ⟨?_, hr, fun hc => ?_⟩
  · rw [value_val, value_val, h1, h2]; simp
  · rw [hr, value_val, hc]; simp

/-- **Neutral, exact arithmetic, reachable states.** At `fl = id`, merging the state reached by
    any history with the empty state, on either side, leaves `sum.value()`, `sum_sq.value()` and
    `count` unchanged. -/
theorem neutral_exact (p : Prog ℝ) :
    let a : Arith Rex := (p.map inj).evalA
    ((a.merge Arith.empty).sum.value = a.sum.value ∧
     (a.merge Arith.empty).sumSq.value = a.sumSq.value ∧
     (a.merge Arith.empty).count = a.count) ∧
    ((Arith.empty.merge a).sum.value = a.sum.value ∧
     (Arith.empty.merge a).sumSq.value = a.sumSq.value ∧
     (Arith.empty.merge a).count = a.count) := by
  intro a
  obtain ⟨_, _, _, c1, c2⟩ := evalA_exact p
  obtain ⟨l1, _, r1⟩ := neutral_exact_register a.sum
  obtain ⟨l2, _, r2⟩ := neutral_exact_register a.sumSq
  obtain ⟨n1, n2⟩ := neutral_count a
  exact ⟨⟨RR.ext' (r1 c1), RR.ext' (r2 c2), n1⟩, ⟨RR.ext' l1, RR.ext' l2, n2⟩⟩

/-- for an *unreachable* register with non-zero compensation the empty register is **not**
    right-neutral even in exact arithmetic (value `1 + 1 = 2` becomes `1 − 1 = 0`): `+=` adds
    `+rhs.compensation` and `value()` is `sum + compensation`, while `kahan_add` maintains
    `sum − compensation` -/
example : ¬ ∀ k : Kahan Rex, (k.merge Kahan.empty).value = k.value := by
  intro h
  have h1 := congrArg RR.val (h ⟨⟨1⟩, ⟨1⟩⟩)
  rw [(neutral_exact_register _).2.1, value_val] at h1
  norm_num at h1

/-- **Neutral, arbitrary rounding.** `k += KahanSum::default()` is exactly two model steps fed
    with `0` (the register is re-normalised: `s ← fl (s + fl (0 − c))`, …), and `value()` moves by
    at most `2|c| + 5u|s| + 7u|c|`. -/
theorem neutral_rounded {fl : ℝ → ℝ} {u : ℝ} (hu : 0 ≤ u) (hu' : u ≤ 1 / 64)
    (hfl : ∀ x, |fl x - x| ≤ u * |x|) (k : Kahan (RR fl)) :
    k.merge Kahan.empty = (k.add NumOps.zero).add NumOps.zero ∧
    (k.add NumOps.zero).sum.val = fl (k.sum.val + fl (0 - k.comp.val)) ∧
    (k.add NumOps.zero).comp.val
      = fl (fl (fl (k.sum.val + fl (0 - k.comp.val)) - k.sum.val) - fl (0 - k.comp.val)) ∧
    |(k.merge Kahan.empty).value.val - k.value.val|
      ≤ 2 * |k.comp.val| + 5 * (u * |k.sum.val|) + 7 * (u * |k.comp.val|) :=
  ⟨rfl, rfl, rfl, merge_empty_value hu hu' hfl k⟩

/-- the same for both registers of an `Arithmetic` state -/
theorem neutral_rounded_arith {fl : ℝ → ℝ} {u : ℝ} (hu : 0 ≤ u) (hu' : u ≤ 1 / 64)
    (hfl : ∀ x, |fl x - x| ≤ u * |x|) (a : Arith (RR fl)) :
    |(a.merge Arith.empty).sum.value.val - a.sum.value.val|
      ≤ 2 * |a.sum.comp.val| + 5 * (u * |a.sum.sum.val|) + 7 * (u * |a.sum.comp.val|) ∧
    |(a.merge Arith.empty).sumSq.value.val - a.sumSq.value.val|
      ≤ 2 * |a.sumSq.comp.val| + 5 * (u * |a.sumSq.sum.val|) + 7 * (u * |a.sumSq.comp.val|) :=
  ⟨merge_empty_value hu hu' hfl a.sum, merge_empty_value hu hu' hfl a.sumSq⟩

end StatsCI.C09
