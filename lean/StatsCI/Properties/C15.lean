/-
  C15 — For all intervals a, b, c: partial_cmp(a, b) is Equal exactly when a == b; a < b exactly
  when a != b and every member of a is <= every member of b (so touching at one endpoint still
  orders them); a < b exactly when b > a; the order is transitive; and intervals that overlap in
  more than a shared endpoint, or are unbounded on the same side, are incomparable.

  Stated over the model functions of `StatsCI.Model.Interval` (`partialCmp` and the operators
  `ltI`/`leI`/`gtI`/`geI` that core derives from it), with the comparison operations of an arbitrary
  linear order. Well-formedness (`low ≤ high`, guaranteed by every constructor, C14) is needed
  where stated: without it the two-sided arm of `partial_cmp` is not even antisymmetric
  (`not_dual_without_WF`).
-/
import StatsCI.Lemmas.IntervalAlg

namespace StatsCI.C15
open StatsCI StatsCI.Interval Set
variable {α : Type} [LinearOrder α]
attribute [local instance] Cmp.ofLinearOrder

theorem equal_iff (a b : Interval α) : partialCmp a b = some .eq ↔ a = b := by
  refine ⟨fun h => ?_, fun h => h ▸ partialCmp_self a⟩
  by_contra he
  rw [partialCmp_of_ne he] at h
  split_ifs at h <;> cases h

theorem equal_iff_beq (a b : Interval α) : partialCmp a b = some .eq ↔ a.beq b = true := by
  rw [equal_iff, Interval.beq_iff_eq]

theorem lt_iff [NoMaxOrder α] [NoMinOrder α] (a b : Interval α) (ha : a.WF) (hb : b.WF) :
    partialCmp a b = some .lt ↔ a ≠ b ∧ ∀ x ∈ a.den, ∀ y ∈ b.den, x ≤ y := by
  rw [partialCmp_lt_iff a b ha hb, below_iff_forall_mem_le ha hb]

theorem gt_iff [NoMaxOrder α] [NoMinOrder α] (a b : Interval α) (ha : a.WF) (hb : b.WF) :
    partialCmp a b = some .gt ↔ a ≠ b ∧ ∀ x ∈ a.den, ∀ y ∈ b.den, y ≤ x := by
  rw [partialCmp_gt_iff, below_iff_forall_mem_le hb ha, forall₂_comm]

/-- through the bounds this holds in every linear order, bounded ones (machine integers)
    included -/
theorem lt_iff_bounds (a b : Interval α) (ha : a.WF) (hb : b.WF) :
    partialCmp a b = some .lt ↔ a ≠ b ∧ ∃ h l, a.right = some h ∧ b.left = some l ∧ h ≤ l :=
  partialCmp_lt_iff a b ha hb

theorem lt_of_touching (x y z : α) (h1 : x ≤ y) (h2 : y ≤ z) (hne : x ≠ z) :
    partialCmp (Interval.twoSided x y) (.twoSided y z) = some .lt ∧
    partialCmp (Interval.lower y) (.upper y) = some .lt ∧
    partialCmp (Interval.twoSided x y) (.upper y) = some .lt ∧
    partialCmp (Interval.lower y) (.twoSided y z) = some .lt := by
  refine ⟨?_, ?_, ?_, ?_⟩
  · refine (lt_iff_bounds (.twoSided x y) (.twoSided y z) h1 h2).mpr ⟨?_, y, y, rfl, rfl, le_rfl⟩
    intro h; injection h with h3 h4; exact hne (h3.trans h4)
  · exact (lt_iff_bounds (.lower y) (.upper y) trivial trivial).mpr ⟨by simp, y, y, rfl, rfl, le_rfl⟩
  · exact (lt_iff_bounds (.twoSided x y) (.upper y) h1 trivial).mpr ⟨by simp, y, y, rfl, rfl, le_rfl⟩
  · exact (lt_iff_bounds (.lower y) (.twoSided y z) trivial h2).mpr ⟨by simp, y, y, rfl, rfl, le_rfl⟩

theorem dual (a b : Interval α) (ha : a.WF) (hb : b.WF) :
    partialCmp a b = some .lt ↔ partialCmp b a = some .gt := by
  rw [partialCmp_lt_iff a b ha hb, partialCmp_gt_iff, ne_comm]

theorem dual_eq (a b : Interval α) : partialCmp a b = some .eq ↔ partialCmp b a = some .eq := by
  rw [equal_iff, equal_iff, eq_comm]

theorem dual_swap (a b : Interval α) (ha : a.WF) (hb : b.WF) :
    partialCmp b a = (partialCmp a b).map Ordering.swap := by
  by_cases he : a = b
  · subst he
    rw [partialCmp_self]
    rfl
  · classical
    rw [partialCmp_of_ne he, partialCmp_of_ne (Ne.symm he)]
    by_cases h1 : Below a b <;> by_cases h2 : Below b a
    -- both ways round only for equal intervals; otherwise the order of the two tests is immaterial
    · exact absurd (h1.antisymm ha hb h2) he
    all_goals simp [h1, h2]

theorem operators (a b : Interval α) :
    (ltI a b = true ↔ partialCmp a b = some .lt) ∧
    (gtI a b = true ↔ partialCmp a b = some .gt) ∧
    (leI a b = true ↔ partialCmp a b = some .lt ∨ partialCmp a b = some .eq) ∧
    (geI a b = true ↔ partialCmp a b = some .gt ∨ partialCmp a b = some .eq) := by
  refine ⟨by simp [ltI], by simp [gtI], ?_, ?_⟩
  · unfold leI
    rcases partialCmp a b with _ | _ | _ | _ <;> simp
  · unfold geI
    rcases partialCmp a b with _ | _ | _ | _ <;> simp

theorem operators_dual (a b : Interval α) (ha : a.WF) (hb : b.WF) :
    ltI a b = gtI b a ∧ leI a b = geI b a := by
  constructor
  · rw [Bool.eq_iff_iff, (operators a b).1, (operators b a).2.1]; exact dual a b ha hb
  · rw [Bool.eq_iff_iff, (operators a b).2.2.1, (operators b a).2.2.2, dual a b ha hb,
      dual_eq a b]

theorem operators_le (a b : Interval α) :
    leI a b = (ltI a b || a.beq b) ∧ geI a b = (gtI a b || a.beq b) := by
  constructor
  · rw [Bool.eq_iff_iff, (operators a b).2.2.1, Bool.or_eq_true, (operators a b).1,
      equal_iff_beq]
  · rw [Bool.eq_iff_iff, (operators a b).2.2.2, Bool.or_eq_true, (operators a b).2.1,
      equal_iff_beq]

/-- without well-formedness `partial_cmp` can answer `Greater` both ways round: this is why the
    theorems above ask for `low ≤ high` (which every constructor guarantees) -/
theorem not_dual_without_WF :
    partialCmp (Interval.twoSided (5 : ℤ) 0) (.twoSided 1 2) = some .gt ∧
    partialCmp (Interval.twoSided (1 : ℤ) 2) (.twoSided 5 0) = some .gt := by
  constructor <;> decide

theorem irrefl (a : Interval α) : ltI a a = false := by
  simp [ltI, partialCmp_self]

theorem trans (a b c : Interval α) (ha : a.WF) (hb : b.WF) (hc : c.WF)
    (hab : ltI a b = true) (hbc : ltI b c = true) : ltI a c = true := by
  rw [(operators _ _).1] at *
  rw [partialCmp_lt_iff _ _ ha hb] at hab
  rw [partialCmp_lt_iff _ _ hb hc] at hbc
  rw [partialCmp_lt_iff _ _ ha hc]
  refine ⟨?_, hab.2.trans hb hbc.2⟩
  -- if `a = c` then `a` and `b` are each below the other
  rintro rfl
  exact hab.1 (hab.2.antisymm ha hb hbc.2)

theorem asymm (a b : Interval α) (ha : a.WF) (hb : b.WF) (hab : ltI a b = true) :
    ltI b a = false := by
  by_contra h
  rw [Bool.not_eq_false] at h
  have := trans a b a ha hb ha hab h
  rw [irrefl] at this
  cases this

theorem le_partial_order (a b c : Interval α) (ha : a.WF) (hb : b.WF) (hc : c.WF) :
    leI a a = true ∧ (leI a b = true → leI b a = true → a = b) ∧
    (leI a b = true → leI b c = true → leI a c = true) := by
  have le_iff : ∀ a b : Interval α, leI a b = true ↔ ltI a b = true ∨ a = b := fun a b => by
    rw [(operators_le a b).1, Bool.or_eq_true, Interval.beq_iff_eq]
  simp only [le_iff]
  refine ⟨.inr trivial, ?_, ?_⟩
  · rintro (h1 | h1) (h2 | h2)
    · exact absurd h2 (Bool.eq_false_iff.mp (asymm a b ha hb h1))
    · exact h2.symm
    · exact h1
    · exact h1
  · rintro (h1 | rfl) (h2 | rfl)
    · exact .inl (trans a b c ha hb hc h1 h2)
    · exact .inl h1
    · exact .inl h2
    · exact .inr rfl

theorem incomparable_unbounded (a b : Interval α)
    (h : (a.right = none ∧ b.right = none) ∨ (a.left = none ∧ b.left = none)) (hne : a ≠ b) :
    partialCmp a b = none := by
  classical
  rw [partialCmp_of_ne hne]
  rcases h with ⟨ha, hb⟩ | ⟨ha, hb⟩
  · rw [if_neg (not_below_of_right_none hb), if_neg (not_below_of_right_none ha)]
  · rw [if_neg (not_below_of_left_none ha), if_neg (not_below_of_left_none hb)]

theorem incomparable_same_side (x y : α) (h : x ≠ y) :
    partialCmp (Interval.upper x) (.upper y) = none ∧
    partialCmp (Interval.lower x) (.lower y) = none :=
  ⟨incomparable_unbounded _ _ (.inl ⟨rfl, rfl⟩) fun e => h (Interval.upper.inj e),
    incomparable_unbounded _ _ (.inr ⟨rfl, rfl⟩) fun e => h (Interval.lower.inj e)⟩

theorem incomparable_overlap (a b : Interval α) (hne : a ≠ b)
    (h : ∃ x y, x < y ∧ x ∈ a.den ∩ b.den ∧ y ∈ a.den ∩ b.den) : partialCmp a b = none := by
  obtain ⟨x, y, hxy, ⟨hxa, hxb⟩, ⟨hya, hyb⟩⟩ := h
  classical
  rw [partialCmp_of_ne hne, if_neg fun h => ?_, if_neg fun h => ?_]
  · exact hxy.not_ge (h.forall_mem_le y hya x hxb)
  · exact hxy.not_ge (h.forall_mem_le y hyb x hxa)

theorem comparable_inter_subsingleton (a b : Interval α) (ha : a.WF) (hb : b.WF) (hne : a ≠ b)
    (h : partialCmp a b ≠ none) : (a.den ∩ b.den).Subsingleton := by
  intro x hx y hy
  by_contra hxy
  rcases lt_or_gt_of_ne hxy with h1 | h1
  · exact h (incomparable_overlap a b hne ⟨x, y, h1, hx, hy⟩)
  · exact h (incomparable_overlap a b hne ⟨y, x, h1, hy, hx⟩)

example : (Interval.twoSided (1 : ℤ) 3).WF ∧ (Interval.twoSided (3 : ℤ) 5).WF ∧
    (Interval.twoSided (5 : ℤ) 9).WF ∧
    ltI (Interval.twoSided (1 : ℤ) 3) (.twoSided 3 5) = true ∧
    ltI (Interval.twoSided (3 : ℤ) 5) (.twoSided 5 9) = true ∧
    ltI (Interval.twoSided (1 : ℤ) 3) (.twoSided 5 9) = true ∧
    gtI (Interval.twoSided (3 : ℤ) 5) (.twoSided 1 3) = true ∧
    partialCmp (Interval.twoSided (1 : ℤ) 4) (.twoSided 3 5) = none ∧
    partialCmp (Interval.lower (1 : ℤ)) (.upper 1) = some .lt ∧
    partialCmp (Interval.upper (1 : ℤ)) (.upper 2) = none := by
  refine ⟨by simp, by simp, by simp, by decide, by decide, by decide, by decide, by decide,
    by decide, by decide⟩

example : ∃ x y : ℤ, x < y ∧ x ∈ (Interval.twoSided (1 : ℤ) 4).den ∩ (Interval.twoSided 3 5).den ∧
    y ∈ (Interval.twoSided (1 : ℤ) 4).den ∩ (Interval.twoSided 3 5).den :=
  ⟨3, 4, by decide, by simp [den], by simp [den]⟩

end StatsCI.C15
