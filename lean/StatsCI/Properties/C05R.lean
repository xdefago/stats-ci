/-
  C05R — Forward rounding-error bounds for the geometric and harmonic mean intervals.

  The model functions `Geometric.ci`, `Harmonic.ci` are run at the carrier `RR fl` (ℝ with a
  rounding function `fl` applied after every operation, *including* `ln`, `exp`, `1/x`, `sqrt`)
  and compared with what they return at exact arithmetic `Rex = RR id` (C05), on the same strictly
  positive real data `xs`, with a constant critical value `c ≥ 0`.

  Hypotheses on `(fl, u, xs)`, as in C01R: `hfl : ∀ x, |fl x − x| ≤ u·|x|`, `0 ≤ u`, `2 ≤ n`,
  `n·u ≤ 1/1024`, `fl` exact on the natural numbers `≤ n`.  Not modelled (as everywhere at
  `RR fl`): overflow, NaN, gradual underflow (so `ln x`, `1/x` of a positive `x` are finite and
  `posInf : RR fl` is only the stand-in `⟨0⟩`; the statements keep `posInf` symbolic).

  Notation (`StatsCI.MeanLogRound`): `y` the exactly transformed data (`ln x`, resp. `1/x`),
  `ỹ = fl y` the data the model's state is really fed (`flLogs`, `flRecips`);
  `RelClose u ys yt`: entrywise `|ỹᵢ − yᵢ| ≤ u·|yᵢ|`; `exLo c ys = ȳ − c·s/√n`, `exHi c ys = ȳ + c·s/√n`
  the exact bounds; `loFl a c`, `hiFl a c` (`StatsCI.MeanRound`) the two bounds `ci_mean` computes at
  `RR fl` on the state `a`.  Error bounds of the transformed-space interval, `Y = Σy²/(n−1)`:

  * `spaceErr u c Δ ys  = 17u·Σ|y|/n + (1+8u)·c·Δ/√n + 7u·c·s/√n + 2u·c·√Y/√n`
    (`Δ` a bound on the error of the computed standard deviation of the rounded list);
  * `spaceErrSqrt u c ys = 17u·Σ|y|/n + 8·c·√(u·Y)/√n + 7u·c·s/√n + 2u·c·√Y/√n` (every sample);
  * `spaceErrKappa u c ys = 95u·(Σ|y|/n + c·s/√n·(1 + κ))`, `κ = Y/s²`
    (first order in `u`; needs `s² > 0` and `u·√Y ≤ s/2`);
  * `SpaceErrBound u c ys E`: `E` dominates one of the last two (under its side conditions).

  Constants are explicit and not tight; they depend on the data only through the stated sums.
-/
import StatsCI.Lemmas.MeanLogRound
import StatsCI.Properties.C05

namespace StatsCI.C05R
open StatsCI StatsCI.MeanLemmas StatsCI.MeanRound StatsCI.MeanLogRound StatsCI.KahanLemmas
  NumOps Scalar

variable {fl : ℝ → ℝ} {u : ℝ}

/-- **Geometric, state.** At `RR fl` strictly positive data are all accepted and the log-space
    state is the `Arith` state of the *rounded* logarithms `x̃ᵢ = fl (ln xᵢ)`, each within relative
    distance `u` of `ln xᵢ`. -/
theorem geometric_state (hfl : ∀ x, |fl x - x| ≤ u * |x|) (xs : List ℝ)
    (hpos : ∀ x ∈ xs, 0 < x) :
    (Geometric.fromList (xs.map inj) : Outcome (Err (RR fl)) (Geometric (RR fl))) =
      .ok ⟨Arith.fromList ((flLogs fl xs).map inj)⟩ ∧
    flLogs fl xs = xs.map (fun x => fl (Real.log x)) ∧
    List.Forall₂ (fun y y' => |y' - y| ≤ u * |y|) (xs.map Real.log) (flLogs fl xs) :=
  ⟨Geometric.fromList_inj xs hpos, by simp [flLogs], relClose_map_fl hfl _⟩

/-- **Harmonic, state.** The reciprocal-space state is the `Arith` state of the rounded
    reciprocals `x̃ᵢ = fl (1/xᵢ)`, each within relative distance `u` of `1/xᵢ`. -/
theorem harmonic_state (hfl : ∀ x, |fl x - x| ≤ u * |x|) (xs : List ℝ)
    (hpos : ∀ x ∈ xs, 0 < x) :
    (Harmonic.fromList (xs.map inj) : Outcome (Err (RR fl)) (Harmonic (RR fl))) =
      .ok ⟨Arith.fromList ((flRecips fl xs).map inj)⟩ ∧
    flRecips fl xs = xs.map (fun x => fl (1 / x)) ∧
    List.Forall₂ (fun y y' => |y' - y| ≤ u * |y|) (xs.map (fun x => 1 / x)) (flRecips fl xs) :=
  ⟨Harmonic.fromList_inj xs hpos, by simp [flRecips], relClose_map_fl hfl _⟩

/-! Perturbation of the exact statistics: two real lists, entry by entry `|ỹᵢ − yᵢ| ≤ u·|yᵢ|`
  (`RelClose u ys yt`, i.e. `List.Forall₂`). -/

/-- **Mean.** `|mean ỹ − mean y| ≤ u·Σ|y|/n`. -/
theorem mean_perturbation {ys yt : List ℝ} (h : RelClose u ys yt) (hn : 1 ≤ ys.length) :
    |smean yt - smean ys| ≤ u * ((ys.map abs).sum / ys.length) :=
  h.smean_close hn

/-- **Sums.** `|Σỹ − Σy| ≤ u·Σ|y|`, `Σ|ỹ| ≤ (1+u)·Σ|y|`, `Σỹ² ≤ (1+u)²·Σy²`. -/
theorem sums_perturbation (hu : 0 ≤ u) {ys yt : List ℝ} (h : RelClose u ys yt) :
    |yt.sum - ys.sum| ≤ u * (ys.map abs).sum ∧
    (yt.map abs).sum ≤ (1 + u) * (ys.map abs).sum ∧
    (yt.map (fun x => x * x)).sum ≤ (1 + u) * (1 + u) * (ys.map (fun x => x * x)).sum :=
  ⟨h.sum, h.sumAbs_le, h.sumSq_le hu⟩

/-- **Standard deviation.** `|s(ỹ) − s(y)| ≤ u·√(Σy²/(n − 1))` (constant `K = 1`): the centred
    vectors differ by the centred difference, centring does not increase the Euclidean norm, and
    `s = ‖centred‖/√(n−1)` is 1-Lipschitz in the centred vector (Minkowski). -/
theorem stdDev_perturbation (hu : 0 ≤ u) {ys yt : List ℝ} (h : RelClose u ys yt)
    (hn : 2 ≤ ys.length) :
    |ssd yt - ssd ys| ≤
      u * Real.sqrt ((ys.map (fun x => x * x)).sum / ((ys.length : ℝ) - 1)) :=
  h.ssd_close hu hn

/-- **Variance.** `|s²(ỹ) − s²(y)| ≤ u·(2 + u)·Σy²/(n − 1)`. -/
theorem variance_perturbation (hu : 0 ≤ u) {ys yt : List ℝ} (h : RelClose u ys yt)
    (hn : 2 ≤ ys.length) :
    |svar yt - svar ys| ≤
      u * (2 + u) * ((ys.map (fun x => x * x)).sum / ((ys.length : ℝ) - 1)) := by
  show _ ≤ u * (2 + u) * (sumSq ys / ((ys.length : ℝ) - 1))
  have hY := sumSq_div_nonneg ys hn
  have hsY : ssd ys ≤ Real.sqrt (sumSq ys / ((ys.length : ℝ) - 1)) :=
    Real.sqrt_le_sqrt (svar_le ys hn)
  have hs0 : 0 ≤ ssd ys := Real.sqrt_nonneg _
  have e1 : ssd yt ^ 2 = svar yt := Real.sq_sqrt (svar_nonneg yt (by rw [← h.length_eq]; omega))
  have e2 : ssd ys ^ 2 = svar ys := Real.sq_sqrt (svar_nonneg ys (by omega))
  -- with `r = √(Σy²/(n − 1)) ≥ s`: `|s̃² − s²| ≤ u·r·(2s + u·r) ≤ u·(2 + u)·r²`
  have h2 := Rounding.abs_sq_sub_sq_le (h.ssd_close hu hn)
  rw [e1, e2, abs_of_nonneg hs0] at h2
  have hr0 := Real.sqrt_nonneg (sumSq ys / ((ys.length : ℝ) - 1))
  rw [← Real.mul_self_sqrt hY]
  generalize Real.sqrt (sumSq ys / ((ys.length : ℝ) - 1)) = r at h2 hsY hr0 ⊢
  have := mul_le_mul_of_nonneg_left
    (by linear_combination 2 * hsY : 2 * ssd ys + u * r ≤ 2 * r + u * r) (mul_nonneg hu hr0)
  linear_combination h2 + this

/-- **Transformed-space interval, error of the standard deviation explicit.** `Arithmetic::ci` run
    at `RR fl` on the perturbed list `ỹ` passes its guards and hands `lo`, `hi` to the interval
    constructor of the kind of `conf`; each differs from the exact bound `ȳ ∓ c·s/√n` *of the exact
    list `y`* by at most
    `17u·Σ|y|/n + (1+8u)·c·|sd_fl(ỹ) − s(ỹ)|/√n + 7u·c·s/√n + 2u·c·√(Σy²/(n−1))/√n`. -/
theorem transformed_interval_error (hfl : ∀ x, |fl x - x| ≤ u * |x|) (hu : 0 ≤ u)
    {ys yt : List ℝ} (hrc : RelClose u ys yt) (hn : 2 ≤ ys.length)
    (hs : (ys.length : ℝ) * u ≤ 1 / 1024) (hnat : ∀ m : ℕ, m ≤ ys.length → fl m = m)
    (c : ℝ) (hc : 0 ≤ c) (conf : Confidence (RR fl)) (hp : probOk conf.quantile = true) :
    ∃ lo hi : ℝ,
      Arith.ci (constCrit c) conf (yt.map inj) = intervalOfKind conf (⟨lo⟩ : RR fl) ⟨hi⟩ ∧
      |lo - exLo c ys| ≤
        spaceErr u c |(Arith.fromList (yt.map inj) : Arith (RR fl)).stdDev.val - ssd yt| ys ∧
      |hi - exHi c ys| ≤
        spaceErr u c |(Arith.fromList (yt.map inj) : Arith (RR fl)).stdDev.val - ssd yt| ys :=
  ⟨_, _, ci_fl yt c conf (by rw [← hrc.length_eq]; exact hn) (by rw [← hrc.length_eq]; exact hnat) hp,
    space_bounds_of_le hfl hu hrc hn hs hnat c hc le_rfl⟩

/-- **Transformed-space interval, either closed form.** The same with the error bounded by any `E`
    dominating `spaceErrSqrt u c ys` (every sample) or, when `s² > 0` and `u·√(Σy²/(n−1)) ≤ s/2`,
    `spaceErrKappa u c ys = 95u·(Σ|y|/n + c·s/√n·(1 + κ))`. -/
theorem transformed_interval_error_closed (hfl : ∀ x, |fl x - x| ≤ u * |x|) (hu : 0 ≤ u)
    {ys yt : List ℝ} (hrc : RelClose u ys yt) (hn : 2 ≤ ys.length)
    (hs : (ys.length : ℝ) * u ≤ 1 / 1024) (hnat : ∀ m : ℕ, m ≤ ys.length → fl m = m)
    (c : ℝ) (hc : 0 ≤ c) (conf : Confidence (RR fl)) (hp : probOk conf.quantile = true)
    {E : ℝ} (hE : SpaceErrBound u c ys E) :
    ∃ lo hi : ℝ,
      Arith.ci (constCrit c) conf (yt.map inj) = intervalOfKind conf (⟨lo⟩ : RR fl) ⟨hi⟩ ∧
      |lo - exLo c ys| ≤ E ∧ |hi - exHi c ys| ≤ E :=
  ⟨_, _, ci_fl yt c conf (by rw [← hrc.length_eq]; exact hn) (by rw [← hrc.length_eq]; exact hnat) hp,
    space_bounds hfl hu hrc hn hs hnat c hc hE⟩

/-- the square-root form spelled out: `17u·Σ|y|/n + 8·c·√(u·Y)/√n + 7u·c·s/√n + 2u·c·√Y/√n` -/
theorem transformed_interval_error_sqrt (hfl : ∀ x, |fl x - x| ≤ u * |x|) (hu : 0 ≤ u)
    {ys yt : List ℝ} (hrc : RelClose u ys yt) (hn : 2 ≤ ys.length)
    (hs : (ys.length : ℝ) * u ≤ 1 / 1024) (hnat : ∀ m : ℕ, m ≤ ys.length → fl m = m)
    (c : ℝ) (hc : 0 ≤ c) (conf : Confidence (RR fl)) (hp : probOk conf.quantile = true) :
    ∃ lo hi : ℝ,
      Arith.ci (constCrit c) conf (yt.map inj) = intervalOfKind conf (⟨lo⟩ : RR fl) ⟨hi⟩ ∧
      |lo - (smean ys - c * (ssd ys / Real.sqrt ys.length))| ≤
        17 * u * ((ys.map abs).sum / ys.length)
          + 8 * (c * (Real.sqrt (u * ((ys.map (fun x => x * x)).sum / ((ys.length : ℝ) - 1)))
              / Real.sqrt ys.length))
          + 7 * u * (c * (ssd ys / Real.sqrt ys.length))
          + 2 * u * (c * (Real.sqrt ((ys.map (fun x => x * x)).sum / ((ys.length : ℝ) - 1))
              / Real.sqrt ys.length)) ∧
      |hi - (smean ys + c * (ssd ys / Real.sqrt ys.length))| ≤
        17 * u * ((ys.map abs).sum / ys.length)
          + 8 * (c * (Real.sqrt (u * ((ys.map (fun x => x * x)).sum / ((ys.length : ℝ) - 1)))
              / Real.sqrt ys.length))
          + 7 * u * (c * (ssd ys / Real.sqrt ys.length))
          + 2 * u * (c * (Real.sqrt ((ys.map (fun x => x * x)).sum / ((ys.length : ℝ) - 1))
              / Real.sqrt ys.length)) :=
  transformed_interval_error_closed hfl hu hrc hn hs hnat c hc conf hp (Or.inl le_rfl)

/-- the `κ`-form spelled out (first order in `u`): for `s² > 0` and `u·√(Σy²/(n−1)) ≤ s/2`,
    each bound is within `95u·(Σ|y|/n + c·s/√n·(1 + κ))`, `κ = Σy²/((n−1)·s²)` -/
theorem transformed_interval_error_kappa (hfl : ∀ x, |fl x - x| ≤ u * |x|) (hu : 0 ≤ u)
    {ys yt : List ℝ} (hrc : RelClose u ys yt) (hn : 2 ≤ ys.length)
    (hs : (ys.length : ℝ) * u ≤ 1 / 1024) (hnat : ∀ m : ℕ, m ≤ ys.length → fl m = m)
    (c : ℝ) (hc : 0 ≤ c) (conf : Confidence (RR fl)) (hp : probOk conf.quantile = true)
    (hpos : 0 < svar ys)
    (hsmall : u * Real.sqrt ((ys.map (fun x => x * x)).sum / ((ys.length : ℝ) - 1)) ≤
      ssd ys / 2) :
    ∃ lo hi : ℝ,
      Arith.ci (constCrit c) conf (yt.map inj) = intervalOfKind conf (⟨lo⟩ : RR fl) ⟨hi⟩ ∧
      |lo - (smean ys - c * (ssd ys / Real.sqrt ys.length))| ≤
        95 * u * ((ys.map abs).sum / ys.length + c * (ssd ys / Real.sqrt ys.length) *
          (1 + (ys.map (fun x => x * x)).sum / ((ys.length : ℝ) - 1) / svar ys)) ∧
      |hi - (smean ys + c * (ssd ys / Real.sqrt ys.length))| ≤
        95 * u * ((ys.map abs).sum / ys.length + c * (ssd ys / Real.sqrt ys.length) *
          (1 + (ys.map (fun x => x * x)).sum / ((ys.length : ℝ) - 1) / svar ys)) :=
  transformed_interval_error_closed hfl hu hrc hn hs hnat c hc conf hp
    (Or.inr ⟨hpos, hsmall, le_rfl⟩)

/-- **Log space.** The two bounds the geometric `ci_mean` computes at `RR fl` (on the state of the
    rounded logarithms) against the exact arithmetic interval of the exact logarithms. -/
theorem logspace_error (hfl : ∀ x, |fl x - x| ≤ u * |x|) (hu : 0 ≤ u) (xs : List ℝ)
    (hn : 2 ≤ xs.length) (hs : (xs.length : ℝ) * u ≤ 1 / 1024)
    (hnat : ∀ m : ℕ, m ≤ xs.length → fl m = m) (c : ℝ) (hc : 0 ≤ c) {E : ℝ}
    (hE : SpaceErrBound u c (xs.map Real.log) E) :
    |loFl (fl := fl) (Arith.fromList ((flLogs fl xs).map inj)) c - exLo c (xs.map Real.log)| ≤ E ∧
    |hiFl (fl := fl) (Arith.fromList ((flLogs fl xs).map inj)) c - exHi c (xs.map Real.log)| ≤ E :=
  space_bounds hfl hu (relClose_map_fl hfl (xs.map Real.log)) (by rwa [List.length_map])
    (by rwa [List.length_map]) (by rwa [List.length_map]) c hc hE

/-- **Reciprocal space.** The same for the harmonic `ci_mean` and the reciprocals. -/
theorem recipspace_error (hfl : ∀ x, |fl x - x| ≤ u * |x|) (hu : 0 ≤ u) (xs : List ℝ)
    (hn : 2 ≤ xs.length) (hs : (xs.length : ℝ) * u ≤ 1 / 1024)
    (hnat : ∀ m : ℕ, m ≤ xs.length → fl m = m) (c : ℝ) (hc : 0 ≤ c) {E : ℝ}
    (hE : SpaceErrBound u c (xs.map (fun x => 1 / x)) E) :
    |loFl (fl := fl) (Arith.fromList ((flRecips fl xs).map inj)) c
        - exLo c (xs.map (fun x => 1 / x))| ≤ E ∧
    |hiFl (fl := fl) (Arith.fromList ((flRecips fl xs).map inj)) c
        - exHi c (xs.map (fun x => 1 / x))| ≤ E :=
  space_bounds hfl hu (relClose_map_fl hfl (xs.map fun x => 1 / x)) (by rwa [List.length_map])
    (by rwa [List.length_map]) (by rwa [List.length_map]) c hc hE

/-- **`exp`.** A computed log-space bound `b̃` within `E` of the exact `b`:
    `|fl (exp b̃) − exp b| ≤ exp b·(exp E − 1 + u·exp E)`, a relative error of about `E + u`. -/
theorem exp_backtransform (hfl : ∀ x, |fl x - x| ≤ u * |x|) (hu : 0 ≤ u) {bt b E : ℝ}
    (h : |bt - b| ≤ E) :
    |(Scalar.exp (⟨bt⟩ : RR fl)).val - Real.exp b| ≤
      Real.exp b * (Real.exp E - 1 + u * Real.exp E) := by
  obtain ⟨d1, d2⟩ := abs_le.mp h
  have hb : 0 < Real.exp b := Real.exp_pos _
  -- `exp` alone: `|exp b̃ − exp b| ≤ exp b·(exp E − 1)`, then one rounding
  have hlip : |Real.exp bt - Real.exp b| ≤ Real.exp b * (Real.exp E - 1) := by
    have hsplit : Real.exp bt = Real.exp b * Real.exp (bt - b) := by
      rw [← Real.exp_add]; congr 1; ring
    have hup : Real.exp (bt - b) ≤ Real.exp E := Real.exp_le_exp.mpr d2
    have hdn : Real.exp (-E) ≤ Real.exp (bt - b) := Real.exp_le_exp.mpr d1
    have a1 := Real.add_one_le_exp E
    have a2 := Real.add_one_le_exp (-E)
    rw [hsplit, ← mul_sub_one, abs_mul, abs_of_pos hb]
    refine mul_le_mul_of_nonneg_left ?_ hb.le
    exact abs_le.mpr ⟨by linear_combination a1 + a2 + hdn, by linear_combination hup⟩
  exact (Rounding.fl_close hfl hu hlip (abs_of_pos hb).le).trans_eq (by ring)

/-- for `E ≤ 1` the relative error is at most `2E + u·(1 + 2E)` -/
theorem exp_backtransform_small (hfl : ∀ x, |fl x - x| ≤ u * |x|) (hu : 0 ≤ u) {bt b E : ℝ}
    (h : |bt - b| ≤ E) (hE : E ≤ 1) :
    |(Scalar.exp (⟨bt⟩ : RR fl)).val - Real.exp b| ≤ Real.exp b * (2 * E + u * (1 + 2 * E)) := by
  have hE0 : 0 ≤ E := le_trans (abs_nonneg _) h
  have h1 := (abs_le.mp (Real.abs_exp_sub_one_le (x := E) (by rwa [abs_of_nonneg hE0]))).2
  rw [abs_of_nonneg hE0] at h1
  refine (exp_backtransform hfl hu h).trans (mul_le_mul_of_nonneg_left ?_ (Real.exp_pos _).le)
  linear_combination h1 +
    mul_le_mul_of_nonneg_left (by linear_combination h1 : Real.exp E ≤ 1 + 2 * E) hu

/-- **`1/·`, which branch.** With `|r̃ − r| ≤ E`:
    * `E < r`: the reciprocal branch, and `|1/r̃ − 1/r| ≤ E/(r·(r − E))`, which degrades as `r ↓ E`;
    * `r ≤ −E`: the computed bound is `≤ 0` as well, both sides read `+∞` (`posInf`);
    * `−E < r ≤ E`: see `recip_branch_undetermined` — the branch is not determined. -/
theorem recip_branches {rt r E : ℝ} (h : |rt - r| ≤ E) :
    (E < r → Harmonic.recipBound (⟨rt⟩ : RR fl) = ⟨fl (1 / rt)⟩ ∧
      |1 / rt - 1 / r| ≤ E / (r * (r - E))) ∧
    (r ≤ -E → Harmonic.recipBound (⟨rt⟩ : RR fl) = (posInf : RR fl)) := by
  obtain ⟨d1, d2⟩ := abs_le.mp h
  have hE0 : 0 ≤ E := le_trans (abs_nonneg _) h
  constructor
  · intro hE
    have hr : 0 < r := hE0.trans_lt hE
    have hrt0 : 0 < rt := by linear_combination d1 + hE
    refine ⟨recipBound_fl_pos ⟨rt⟩ hrt0, ?_⟩
    rw [div_sub_div _ _ hrt0.ne' hr.ne', one_mul, mul_one, abs_div, abs_of_pos (mul_pos hrt0 hr),
      abs_sub_comm]
    have h1 : r * (r - E) ≤ rt * r :=
      (mul_le_mul_of_nonneg_left (by linear_combination d1 : r - E ≤ rt) hr.le).trans_eq
        (mul_comm r rt)
    calc |rt - r| / (rt * r) ≤ E / (rt * r) :=
          div_le_div_of_nonneg_right h (mul_pos hrt0 hr).le
      _ ≤ E / (r * (r - E)) := div_le_div_of_nonneg_left hE0 (mul_pos hr (sub_pos.mpr hE)) h1
  · intro hr
    exact recipBound_fl_not_pos ⟨rt⟩ (by show rt ≤ 0; linear_combination d2 + hr)

/-- **`1/·`, the good case.** Exact reciprocal-space bound `r > 0`, computed `r̃` within `E ≤ r/2`:
    the model takes the reciprocal branch of `recipBound` and
    `|fl (1/r̃) − 1/r| ≤ 2E/r² + u·(2/r)`. -/
theorem recip_backtransform (hfl : ∀ x, |fl x - x| ≤ u * |x|) (hu : 0 ≤ u) {rt r E : ℝ}
    (hr : 0 < r) (hE : E ≤ r / 2) (h : |rt - r| ≤ E) :
    Harmonic.recipBound (⟨rt⟩ : RR fl) = ⟨fl (1 / rt)⟩ ∧
    |fl (1 / rt) - 1 / r| ≤ 2 * E / r ^ 2 + u * (2 / r) := by
  obtain ⟨e, hfar⟩ := (recip_branches (fl := fl) h).1 (hE.trans_lt (half_lt_self hr))
  refine ⟨e, ?_⟩
  have hrt0 : 0 < rt := by linear_combination (abs_le.mp h).1 + hE + (1 / 2) * hr
  have hE0 : 0 ≤ E := le_trans (abs_nonneg _) h
  -- `r − E ≥ r/2`, so `E/(r·(r − E)) ≤ 2E/r²`; and `1/r̃ ≤ 2/r` for the rounding
  have h1 : E / (r * (r - E)) ≤ 2 * E / r ^ 2 := by
    have := div_le_div_of_nonneg_left hE0 (mul_pos hr (half_pos hr))
      (mul_le_mul_of_nonneg_left (by linear_combination hE : r / 2 ≤ r - E) hr.le)
    rwa [← mul_div_assoc, ← pow_two, div_div_eq_mul_div, mul_comm E] at this
  have hq : 1 / rt ≤ 2 / r := by
    rw [div_le_div_iff₀ hrt0 hr]
    linear_combination 2 * (abs_le.mp h).1 + 2 * hE
  have hfq := hfl (1 / rt)
  rw [abs_of_pos (one_div_pos.mpr hrt0)] at hfq
  have tri := abs_sub_le (fl (1 / rt)) (1 / rt) (1 / r)
  have := mul_le_mul_of_nonneg_left hq hu
  linear_combination tri + this + hfq + hfar + h1

/-- **`1/·`, exact bound within `E` of zero.** For `−E < r ≤ E` the hypothesis `|r̃ − r| ≤ E` is
    compatible with *both* branches of `recipBound` on the computed side: there are admissible
    `r̃₁ > 0` (reciprocal branch, a finite value `fl (1/r̃₁)`, arbitrarily large as `r̃₁ ↓ 0`) and
    `r̃₂ ≤ 0` (`+∞`), whatever the exact side does (`1/r` for `r > 0`, `+∞` for `r ≤ 0`).  No error
    bound between the computed and the exact harmonic bound is possible there. -/
theorem recip_branch_undetermined {r E : ℝ} (h1 : -E < r) (h2 : r ≤ E) :
    ∃ rt₁ rt₂ : ℝ, |rt₁ - r| ≤ E ∧ |rt₂ - r| ≤ E ∧
      Harmonic.recipBound (⟨rt₁⟩ : RR fl) = ⟨fl (1 / rt₁)⟩ ∧
      Harmonic.recipBound (⟨rt₂⟩ : RR fl) = (posInf : RR fl) := by
  have hE : 0 ≤ E := by linear_combination (1 / 2) * h1 + (1 / 2) * h2
  refine ⟨r + E, r - E, by simp [abs_of_nonneg hE], by simp [abs_of_nonneg hE], ?_, ?_⟩
  · exact recipBound_fl_pos ⟨r + E⟩ (by show 0 < r + E; linear_combination h1)
  · exact recipBound_fl_not_pos ⟨r - E⟩ (by show r - E ≤ 0; linear_combination h2)

/-- the reference: at exact arithmetic `Geometric::ci` with the constant critical value `c` is
    the interval of kind `conf` with bounds `exp (ȳ ∓ c·s/√n)`, `y = ln x` (C05 `geometric_bounds`) -/
theorem geometric_exact (c : ℝ) (conf : Confidence Rex) (xs : List ℝ) (hpos : ∀ x ∈ xs, 0 < x)
    (hn : 2 ≤ xs.length) (h0 : 0 < conf.level.val) (h1 : conf.level.val < 1) :
    Geometric.ci (constCrit c) conf (xs.map inj) =
      (intervalOfKind conf (⟨exLo c (xs.map Real.log)⟩ : Rex) ⟨exHi c (xs.map Real.log)⟩).map
        (Interval.map Scalar.exp) := by
  rw [C05.geometric _ conf xs hpos,
    Arith.ci_rex_const c conf _ (by simpa using hn) (probOk_quantile conf h0 h1)]
  rfl

/-- the reference: at exact arithmetic `Harmonic::ci` builds the arithmetic interval
    `r̄ ∓ c·s/√n`, `r = 1/x`, at the flipped confidence and sends each end through `recipBound`,
    ends exchanged (C05 `harmonic`, `harmonic_not_pos`) -/
theorem harmonic_exact (c : ℝ) (conf : Confidence Rex) (xs : List ℝ) (hpos : ∀ x ∈ xs, 0 < x)
    (hn : 2 ≤ xs.length) (h0 : 0 < conf.level.val) (h1 : conf.level.val < 1) :
    Harmonic.ci (constCrit c) conf (xs.map inj) =
      (intervalOfKind conf.flipped (⟨exLo c (xs.map (fun x => 1 / x))⟩ : Rex)
          ⟨exHi c (xs.map (fun x => 1 / x))⟩).bind fun ci =>
        intervalOfKind conf
          (Harmonic.recipBound (@Interval.highX Rex ⟨negInf, posInf⟩ ci))
          (Harmonic.recipBound (@Interval.lowX Rex ⟨negInf, posInf⟩ ci)) := by
  have hp : probOk conf.flipped.quantile = true := by
    rw [conf.flipped_quantile]
    exact probOk_quantile conf h0 h1
  rw [C05.harmonic_state _ conf xs hpos]
  unfold Harmonic.ciMean
  show (Arith.ci (constCrit c) conf.flipped ((xs.map (fun x => 1 / x)).map inj)).bind _ = _
  rw [Arith.ci_rex_const c conf.flipped _ (by simpa using hn) hp]
  rfl

/-- **Geometric interval.** At `RR fl`, strictly positive data, constant critical value `c ≥ 0`,
    any `E` dominating one of the proved log-space error bounds: there are `L`, `H` with
    `|L − exp (ȳ − c·s/√n)| ≤ exp (ȳ − c·s/√n)·(exp E − 1 + u·exp E)` and the same for `H` at
    `ȳ + c·s/√n` (`y = ln x`), such that `Geometric::ci` returns `[L, +∞)` for an upper one-sided
    confidence, `(-∞, H]` for a lower one; for a two-sided confidence it returns `[L, H]` or the
    error `InvalidBounds` of `Interval::new` (the relative-error hypothesis on `fl` alone does not
    order the two rounded ends), and `[L, H]` whenever `fl` is monotone. -/
theorem geometric_ci_error (hfl : ∀ x, |fl x - x| ≤ u * |x|) (hu : 0 ≤ u) (xs : List ℝ)
    (hpos : ∀ x ∈ xs, 0 < x) (hn : 2 ≤ xs.length) (hs : (xs.length : ℝ) * u ≤ 1 / 1024)
    (hnat : ∀ m : ℕ, m ≤ xs.length → fl m = m) (c : ℝ) (hc : 0 ≤ c) (conf : Confidence (RR fl))
    (hp : probOk conf.quantile = true) {E : ℝ} (hE : SpaceErrBound u c (xs.map Real.log) E) :
    ∃ L H : ℝ,
      |L - Real.exp (exLo c (xs.map Real.log))| ≤
        Real.exp (exLo c (xs.map Real.log)) * (Real.exp E - 1 + u * Real.exp E) ∧
      |H - Real.exp (exHi c (xs.map Real.log))| ≤
        Real.exp (exHi c (xs.map Real.log)) * (Real.exp E - 1 + u * Real.exp E) ∧
      match conf with
      | .upper l => Geometric.ci (constCrit c) (.upper l) (xs.map inj) = .ok (.upper (⟨L⟩ : RR fl))
      | .lower l => Geometric.ci (constCrit c) (.lower l) (xs.map inj) = .ok (.lower (⟨H⟩ : RR fl))
      | .twoSided l =>
        (Geometric.ci (constCrit c) (.twoSided l) (xs.map inj) =
            .ok (.twoSided (⟨L⟩ : RR fl) ⟨H⟩) ∨
          Geometric.ci (constCrit c) (.twoSided l) (xs.map inj) =
            (.err (.interval .invalidBounds) : Outcome (Err (RR fl)) (Interval (RR fl)))) ∧
        (Monotone fl → Geometric.ci (constCrit c) (.twoSided l) (xs.map inj) =
            .ok (.twoSided (⟨L⟩ : RR fl) ⟨H⟩)) := by
  obtain ⟨b1, b2⟩ := logspace_error hfl hu xs hn hs hnat c hc hE
  refine ⟨_, _, exp_backtransform hfl hu b1, exp_backtransform hfl hu b2, ?_⟩
  cases conf with
  | upper l => exact (Geometric.ci_fl xs hpos hn hnat c _ hp).trans rfl
  | lower l => exact (Geometric.ci_fl xs hpos hn hnat c _ hp).trans rfl
  | twoSided l =>
    dsimp only
    rw [Geometric.ci_fl xs hpos hn hnat c _ hp, intervalOfKind_eq]
    refine ⟨?_, fun hmono => ?_⟩
    · split_ifs
      · exact Or.inr rfl
      · exact Or.inr rfl
      · exact Or.inl rfl
    · have h1 := loFl_le_hiFl hfl hmono
        (Arith.fromList ((flLogs fl xs).map inj) : Arith (RR fl)) hc
      rw [if_neg fun k => absurd k.2 (not_lt.mpr h1), if_neg]
      · rfl
      · rw [Bool.and_eq_true, RR.gt_iff]
        exact fun k => absurd k.2 (not_lt.mpr (hmono (Real.exp_le_exp.mpr h1)))

/-- **Harmonic interval, general shape.** At `RR fl` there are computed reciprocal-space bounds
    `lo`, `hi` within `E` of the exact `r̄ − c·s/√n`, `r̄ + c·s/√n` (`r = 1/x`) such that
    `Harmonic::ci` returns `[recipBound hi, +∞)` (upper), `(-∞, recipBound lo]` (lower) or hands
    `(recipBound hi, recipBound lo)` to `Interval::new` (two-sided; `lo ≤ hi` holds when `fl` is
    monotone, otherwise the reciprocal-space `Interval::new` may already reject).  Which branch
    `recipBound` takes and how far `fl (1/·)` is from the exact reciprocal is `recip_backtransform`,
    `recip_branches`, `recip_branch_undetermined` with `r̃ = lo` or `hi`. -/
theorem harmonic_ci_shape (hfl : ∀ x, |fl x - x| ≤ u * |x|) (hu : 0 ≤ u) (xs : List ℝ)
    (hpos : ∀ x ∈ xs, 0 < x) (hn : 2 ≤ xs.length) (hs : (xs.length : ℝ) * u ≤ 1 / 1024)
    (hnat : ∀ m : ℕ, m ≤ xs.length → fl m = m) (c : ℝ) (hc : 0 ≤ c) (conf : Confidence (RR fl))
    (hp : probOk conf.quantile = true) {E : ℝ}
    (hE : SpaceErrBound u c (xs.map (fun x => 1 / x)) E) :
    ∃ lo hi : ℝ,
      |lo - exLo c (xs.map (fun x => 1 / x))| ≤ E ∧ |hi - exHi c (xs.map (fun x => 1 / x))| ≤ E ∧
      match conf with
      | .upper l => Harmonic.ci (constCrit c) (.upper l) (xs.map inj) =
          .ok (.upper (Harmonic.recipBound (⟨hi⟩ : RR fl)))
      | .lower l => Harmonic.ci (constCrit c) (.lower l) (xs.map inj) =
          .ok (.lower (Harmonic.recipBound (⟨lo⟩ : RR fl)))
      | .twoSided l =>
        (lo ≤ hi → Harmonic.ci (constCrit c) (.twoSided l) (xs.map inj) =
          liftI (Interval.new (Harmonic.recipBound (⟨hi⟩ : RR fl))
            (Harmonic.recipBound (⟨lo⟩ : RR fl)))) ∧
        (hi < lo → Harmonic.ci (constCrit c) (.twoSided l) (xs.map inj) =
          (.err (.interval .invalidBounds) : Outcome (Err (RR fl)) (Interval (RR fl)))) ∧
        (Monotone fl → lo ≤ hi) := by
  obtain ⟨b1, b2⟩ := recipspace_error hfl hu xs hn hs hnat c hc hE
  refine ⟨_, _, b1, b2, ?_⟩
  cases conf with
  | upper l => exact Harmonic.ci_fl_upper xs hpos hn hnat c l hp
  | lower l => exact Harmonic.ci_fl_lower xs hpos hn hnat c l hp
  | twoSided l =>
    dsimp only
    rw [Harmonic.ci_fl xs hpos hn hnat c _ hp]
    exact ⟨fun h => if_neg fun k => absurd k.2 (not_lt.mpr h), fun h => if_pos ⟨rfl, h⟩,
      fun hmono => loFl_le_hiFl hfl hmono _ hc⟩

/-- **Harmonic interval, upper one-sided, good case.** Exact reciprocal-space upper bound
    `r = r̄ + c·s/√n > 0` and `E ≤ r/2`: `Harmonic::ci` returns `[L, +∞)` with
    `|L − 1/r| ≤ 2E/r² + u·(2/r)` (`1/r` is the exact harmonic bound, C05 `harmonic_upper`). -/
theorem harmonic_ci_error_upper (hfl : ∀ x, |fl x - x| ≤ u * |x|) (hu : 0 ≤ u) (xs : List ℝ)
    (hpos : ∀ x ∈ xs, 0 < x) (hn : 2 ≤ xs.length) (hs : (xs.length : ℝ) * u ≤ 1 / 1024)
    (hnat : ∀ m : ℕ, m ≤ xs.length → fl m = m) (c : ℝ) (hc : 0 ≤ c) (l : RR fl)
    (hp : probOk (Confidence.upper l).quantile = true) {E : ℝ}
    (hE : SpaceErrBound u c (xs.map (fun x => 1 / x)) E)
    (hr : 0 < exHi c (xs.map (fun x => 1 / x))) (hEr : E ≤ exHi c (xs.map (fun x => 1 / x)) / 2) :
    ∃ L : ℝ, Harmonic.ci (constCrit c) (.upper l) (xs.map inj) = .ok (.upper (⟨L⟩ : RR fl)) ∧
      |L - 1 / exHi c (xs.map (fun x => 1 / x))| ≤
        2 * E / exHi c (xs.map (fun x => 1 / x)) ^ 2 +
          u * (2 / exHi c (xs.map (fun x => 1 / x))) := by
  obtain ⟨b1, b2⟩ := recipspace_error hfl hu xs hn hs hnat c hc hE
  obtain ⟨e1, e2⟩ := recip_backtransform hfl hu hr hEr b2
  refine ⟨_, ?_, e2⟩
  rw [Harmonic.ci_fl_upper xs hpos hn hnat c l hp, e1]

/-- **Harmonic interval, lower one-sided, good case.** Exact reciprocal-space lower bound
    `r = r̄ − c·s/√n > 0` and `E ≤ r/2`: `Harmonic::ci` returns `(-∞, H]` with
    `|H − 1/r| ≤ 2E/r² + u·(2/r)`. -/
theorem harmonic_ci_error_lower (hfl : ∀ x, |fl x - x| ≤ u * |x|) (hu : 0 ≤ u) (xs : List ℝ)
    (hpos : ∀ x ∈ xs, 0 < x) (hn : 2 ≤ xs.length) (hs : (xs.length : ℝ) * u ≤ 1 / 1024)
    (hnat : ∀ m : ℕ, m ≤ xs.length → fl m = m) (c : ℝ) (hc : 0 ≤ c) (l : RR fl)
    (hp : probOk (Confidence.lower l).quantile = true) {E : ℝ}
    (hE : SpaceErrBound u c (xs.map (fun x => 1 / x)) E)
    (hr : 0 < exLo c (xs.map (fun x => 1 / x))) (hEr : E ≤ exLo c (xs.map (fun x => 1 / x)) / 2) :
    ∃ H : ℝ, Harmonic.ci (constCrit c) (.lower l) (xs.map inj) = .ok (.lower (⟨H⟩ : RR fl)) ∧
      |H - 1 / exLo c (xs.map (fun x => 1 / x))| ≤
        2 * E / exLo c (xs.map (fun x => 1 / x)) ^ 2 +
          u * (2 / exLo c (xs.map (fun x => 1 / x))) := by
  obtain ⟨b1, b2⟩ := recipspace_error hfl hu xs hn hs hnat c hc hE
  obtain ⟨e1, e2⟩ := recip_backtransform hfl hu hr hEr b1
  refine ⟨_, ?_, e2⟩
  rw [Harmonic.ci_fl_lower xs hpos hn hnat c l hp, e1]

/-- **Harmonic interval, two-sided, good case.** Exact reciprocal-space lower bound
    `a = r̄ − c·s/√n > 0` (so the upper `b = r̄ + c·s/√n ≥ a > 0`), `E ≤ a/2`, `fl` monotone:
    `Harmonic::ci` returns `[L, H]` with `|L − 1/b| ≤ 2E/b² + u·(2/b)` and
    `|H − 1/a| ≤ 2E/a² + u·(2/a)`. -/
theorem harmonic_ci_error_twoSided (hfl : ∀ x, |fl x - x| ≤ u * |x|) (hu : 0 ≤ u) (xs : List ℝ)
    (hpos : ∀ x ∈ xs, 0 < x) (hn : 2 ≤ xs.length) (hs : (xs.length : ℝ) * u ≤ 1 / 1024)
    (hnat : ∀ m : ℕ, m ≤ xs.length → fl m = m) (c : ℝ) (hc : 0 ≤ c) (l : RR fl)
    (hp : probOk (Confidence.twoSided l).quantile = true) {E : ℝ}
    (hE : SpaceErrBound u c (xs.map (fun x => 1 / x)) E) (hmono : Monotone fl)
    (hr : 0 < exLo c (xs.map (fun x => 1 / x))) (hEr : E ≤ exLo c (xs.map (fun x => 1 / x)) / 2) :
    ∃ L H : ℝ,
      Harmonic.ci (constCrit c) (.twoSided l) (xs.map inj) = .ok (.twoSided (⟨L⟩ : RR fl) ⟨H⟩) ∧
      |L - 1 / exHi c (xs.map (fun x => 1 / x))| ≤
        2 * E / exHi c (xs.map (fun x => 1 / x)) ^ 2 +
          u * (2 / exHi c (xs.map (fun x => 1 / x))) ∧
      |H - 1 / exLo c (xs.map (fun x => 1 / x))| ≤
        2 * E / exLo c (xs.map (fun x => 1 / x)) ^ 2 +
          u * (2 / exLo c (xs.map (fun x => 1 / x))) := by
  obtain ⟨b1, b2⟩ := recipspace_error hfl hu xs hn hs hnat c hc hE
  have hle := exLo_le_exHi hc (xs.map (fun x => 1 / x))
  obtain ⟨e1, e2⟩ := recip_backtransform hfl hu hr hEr b1
  obtain ⟨e3, e4⟩ := recip_backtransform hfl hu (lt_of_lt_of_le hr hle)
    (by linear_combination hEr + (1 / 2) * hle) b2
  have hord := loFl_le_hiFl hfl hmono
    (Arith.fromList ((flRecips fl xs).map inj) : Arith (RR fl)) hc
  have hlo0 : 0 < loFl (fl := fl) (Arith.fromList ((flRecips fl xs).map inj)) c := by
    linear_combination (abs_le.mp b1).1 + hEr + (1 / 2) * hr
  refine ⟨_, _, ?_, e4, e2⟩
  rw [Harmonic.ci_fl xs hpos hn hnat c _ hp, if_neg fun k => absurd k.2 (not_lt.mpr hord), e1, e3]
  exact liftI_new_eq_ok_iff.mpr
    ⟨(RR.gt_eq_false_iff _ _).mpr (hmono (one_div_le_one_div_of_le hlo0 hord)), rfl⟩

/-- **Harmonic interval, one-sided, the exact bound at least `E` below zero.** Then the computed
    reciprocal-space bound is `≤ 0` too and `Harmonic::ci` returns the same `+∞` end as exact
    arithmetic does (C05 `harmonic_not_pos`). -/
theorem harmonic_ci_not_pos (hfl : ∀ x, |fl x - x| ≤ u * |x|) (hu : 0 ≤ u) (xs : List ℝ)
    (hpos : ∀ x ∈ xs, 0 < x) (hn : 2 ≤ xs.length) (hs : (xs.length : ℝ) * u ≤ 1 / 1024)
    (hnat : ∀ m : ℕ, m ≤ xs.length → fl m = m) (c : ℝ) (hc : 0 ≤ c) (l : RR fl) {E : ℝ}
    (hE : SpaceErrBound u c (xs.map (fun x => 1 / x)) E) :
    (probOk (Confidence.upper l).quantile = true → exHi c (xs.map (fun x => 1 / x)) ≤ -E →
      Harmonic.ci (constCrit c) (.upper l) (xs.map inj) = .ok (.upper (posInf : RR fl))) ∧
    (probOk (Confidence.lower l).quantile = true → exLo c (xs.map (fun x => 1 / x)) ≤ -E →
      Harmonic.ci (constCrit c) (.lower l) (xs.map inj) = .ok (.lower (posInf : RR fl))) := by
  obtain ⟨b1, b2⟩ := recipspace_error hfl hu xs hn hs hnat c hc hE
  constructor
  · intro hp hr
    rw [Harmonic.ci_fl_upper xs hpos hn hnat c l hp, (recip_branches b2).2 hr]
  · intro hp hr
    rw [Harmonic.ci_fl_lower xs hpos hn hnat c l hp, (recip_branches b1).2 hr]

/-- the hypotheses on `(fl, u, xs)` are met by exact arithmetic and a concrete positive list; the
    error bounds then vanish, `E = 0` is admissible and the theorems give equality with C05 -/
example : (∀ x : ℝ, |id x - x| ≤ 0 * |x|) ∧ (0 : ℝ) ≤ 0 ∧ (∀ x ∈ [(1 : ℝ), 2, 4], 0 < x) ∧
    2 ≤ [(1 : ℝ), 2, 4].length ∧ (([(1 : ℝ), 2, 4].length : ℕ) : ℝ) * 0 ≤ 1 / 1024 ∧
    (∀ m : ℕ, m ≤ [(1 : ℝ), 2, 4].length → id (m : ℝ) = m) ∧
    SpaceErrBound 0 2 ([(1 : ℝ), 2, 4].map Real.log) 0 ∧
    SpaceErrBound 0 2 ([(1 : ℝ), 2, 4].map (fun x => 1 / x)) 0 := by
  refine ⟨by intro x; simp, le_refl _, ?_, by simp, by norm_num, by intro m _; rfl,
    Or.inl (by rw [spaceErrSqrt_zero]), Or.inl (by rw [spaceErrSqrt_zero])⟩
  simp only [List.forall_mem_cons]; norm_num

/-- … and by a rounding function that is not the identity and is monotone: `fl x = x` for `x ≤ 8`,
    `fl x = x·(1 + 2⁻¹²)` above, `u = 2⁻¹²`, three positive observations -/
example : ∃ (fl : ℝ → ℝ) (u : ℝ) (xs : List ℝ), (∀ x, |fl x - x| ≤ u * |x|) ∧ 0 ≤ u ∧
    (∀ x ∈ xs, 0 < x) ∧ 2 ≤ xs.length ∧ (xs.length : ℝ) * u ≤ 1 / 1024 ∧
    (∀ m : ℕ, m ≤ xs.length → fl m = m) ∧ Monotone fl ∧ fl 16 ≠ 16 := by
  refine ⟨fun x => if x ≤ 8 then x else x * (1 + 1 / 4096), 1 / 4096, [1 / 2, 2, 4], ?_,
    by norm_num, ?_, by simp, by norm_num, ?_, ?_, ?_⟩
  · intro x
    show |(if x ≤ 8 then x else x * (1 + 1 / 4096)) - x| ≤ 1 / 4096 * |x|
    split_ifs with h
    · simp only [sub_self, abs_zero]
      exact mul_nonneg (by norm_num) (abs_nonneg x)
    · have : x * (1 + 1 / 4096) - x = 1 / 4096 * x := by ring
      rw [this, abs_mul]
      norm_num
  · simp only [List.forall_mem_cons]; norm_num
  · intro m hm
    have : (m : ℝ) ≤ 8 := (by exact_mod_cast hm : (m : ℝ) ≤ 3).trans (by norm_num)
    show (if (m : ℝ) ≤ 8 then (m : ℝ) else (m : ℝ) * (1 + 1 / 4096)) = m
    rw [if_pos this]
  · intro a b hab
    show (if a ≤ 8 then a else a * (1 + 1 / 4096)) ≤ (if b ≤ 8 then b else b * (1 + 1 / 4096))
    split_ifs with h1 h2 h2
    · exact hab
    · linear_combination hab + (1 / 4096) * not_le.mp h2
    · exact absurd (hab.trans h2) h1
    · exact mul_le_mul_of_nonneg_right hab (by norm_num)
  · show (if (16 : ℝ) ≤ 8 then (16 : ℝ) else 16 * (1 + 1 / 4096)) ≠ 16
    norm_num

/-- the side conditions of the first-order (`κ`) form hold for a genuinely inexact `u`: the
    reciprocals `1, 3` of the data `1, 1/3` have `s² = 2 > 0`, `Y = Σr²/(n−1) = 10` and
    `2⁻¹²·√10 ≤ √2/2` -/
example : 0 < svar [(1 : ℝ), 3] ∧
    (1 / 4096 : ℝ) * Real.sqrt ((([(1 : ℝ), 3]).map (fun x => x * x)).sum /
      ((([(1 : ℝ), 3]).length : ℝ) - 1)) ≤ ssd [(1 : ℝ), 3] / 2 := by
  have hv := svar_one_three
  refine ⟨by rw [hv]; norm_num, ?_⟩
  have h1 : Real.sqrt ((([(1 : ℝ), 3]).map (fun x => x * x)).sum /
      ((([(1 : ℝ), 3]).length : ℝ) - 1)) ≤ 4 := by
    rw [Real.sqrt_le_left (by norm_num)]
    norm_num
  have h2 : (1 : ℝ) ≤ ssd [(1 : ℝ), 3] := by
    unfold ssd
    rw [hv]
    exact Real.le_sqrt_of_sq_le (by norm_num)
  linear_combination (1 / 4096) * h1 + (1 / 2) * h2

/-- the probability hypothesis holds for a one-sided confidence at every `fl` (no arithmetic is
    performed on the level) -/
example (fl : ℝ → ℝ) : probOk (Confidence.upper (⟨0.95⟩ : RR fl)).quantile = true :=
  (RR.probOk_iff (⟨0.95⟩ : RR fl)).mpr ⟨by norm_num, by norm_num⟩

/-- the good case of the harmonic back-transform is inhabited: `r = 2`, `E = 1/2`, `r̃ = 5/2` -/
example : (0 : ℝ) < 2 ∧ (1 / 2 : ℝ) ≤ 2 / 2 ∧ |(5 / 2 : ℝ) - 2| ≤ 1 / 2 := by
  refine ⟨by norm_num, by norm_num, ?_⟩
  rw [abs_of_nonneg (by norm_num)]
  norm_num

/-- the undetermined zone is inhabited, e.g. an exact reciprocal-space bound `r = 0` (exact side:
    `+∞`) with `E = 1`: `r̃ = 1` gives the finite value `fl 1`, `r̃ = −1` gives `+∞` -/
example : Harmonic.recipBound (⟨1⟩ : Rex) = ⟨1⟩ ∧ Harmonic.recipBound (⟨-1⟩ : Rex) = posInf ∧
    Harmonic.recipBound (⟨0⟩ : Rex) = posInf ∧ |(1 : ℝ) - 0| ≤ 1 ∧ |(-1 : ℝ) - 0| ≤ 1 := by
  refine ⟨?_, ?_, ?_, by norm_num, by norm_num⟩
  · rw [recipBound_fl_pos (⟨1⟩ : Rex) (by show (0 : ℝ) < 1; norm_num)]
    apply RR.ext'; simp
  · exact recipBound_fl_not_pos (⟨-1⟩ : Rex) (by show (-1 : ℝ) ≤ 0; norm_num)
  · exact recipBound_fl_not_pos (⟨0⟩ : Rex) (by show (0 : ℝ) ≤ 0; norm_num)

end StatsCI.C05R
