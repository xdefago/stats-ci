/-
  C03R — The ranks of the quantile confidence interval computed in floating point are within one
  position of the ranks computed in exact arithmetic (the "one position" allowance of the
  differential oracle, as a theorem).

  All theorems are about the model functions `Quantile.index` and `Quantile.ciIndices`
  (`StatsCI.Model.Quantile`) themselves, run once at `RR fl` — reals with a rounding function
  `fl` applied after every arithmetic operation — and once at exact arithmetic `Rex = RR id`.

  `ci_wilson` clamps its two bounds into `[0, 1]` (`(mean − span).max(0.)`, `(mean + span).min(1.)`).
  In exact arithmetic the clamp is inert (C03); in rounded arithmetic it is what keeps a computed
  bound that slipped below 0 or above 1 from becoming an `IndexError` of `ci_indices`
  (`ciWilson_fl_bounds`, `ciIndices_fl_no_indexError`), and it never moves a computed bound
  further from the exact one (`wilsonClose_of_unclamped`).

  Vocabulary (`StatsCI.RankRound`, in `Lemmas/RankRound.lean` and — what the model computes at
  `RR fl` — `Lemmas/Quantile.lean`; `StatsCI.QSpec`):
  * `Rounds fl u n`: `0 ≤ u`, `|fl x − x| ≤ u·|x|` for every `x`, `fl m = m` for naturals `m ≤ n`;
  * `delta u ε p n = n·ε + u·n·(p + ε)`: how far the product `fl (p̃·n)` computed from a
    probability `p̃` with `|p̃ − p| ≤ ε` can be from the exact product `p·n`;
  * `WithinOne i j`: `i = j ∨ i = j + 1 ∨ i + 1 = j`;
    `IntervalWithinOne I J`: `I`, `J` of the same kind, their ranks pairwise `WithinOne`;
  * `RankStable u ε n p`: `min ⌊p·n − delta⌋₊ (n−1) = min ⌊p·n + delta⌋₊ (n−1)` — no rank
    boundary within `delta` of `p·n`;
  * `rankFl fl n p = min ⌊fl (p · fl n)⌋₊ (n−1)`: the rank `Stats::index` computes at `RR fl`;
    `rank n p = min ⌊p·n⌋₊ (n−1)`, `successes q n = (round (q·n)).toNat`: the exact ones;
  * `WilsonClose ε rF r`: if the two `ci_wilson` outcomes are `Ok [aF, bF]` and `Ok [a, b]`
    then `|aF − a| ≤ ε` and `|bF − b| ≤ ε`. It is a **hypothesis** of the lifts;
    `wilsonClose_of_unclamped` below reduces it to the closeness of the *unclamped* bounds (its
    `h1`, `h2`), and those are the two parts of `WilsonRound.ends_close` (C02R `bounds_rounding`)
    with `ε = 8·u`: for `Rounds fl u n`, `u ≤ 1/1024`, `4 ≤ n`, `k ≤ n` and the same critical value
    on both sides;
  * `nudge a b`: the rounding function that moves the single value `a` to `b`.
-/
import StatsCI.Lemmas.RankRound

namespace StatsCI.C03R
open StatsCI Quantile QSpec RankRound NumOps Scalar

variable {fl : ℝ → ℝ} {u ε : ℝ} {n : ℕ}

/-! ## 1. `Stats::index` -/

/-- **Rank transfer.** The rank computed at `RR fl` from a probability `p̃` and the rank computed
    exactly from `p`, `|p̃ − p| ≤ ε`, are at most one position apart as soon as the error radius
    `delta u ε p n = n·ε + u·n·(p + ε)` of the product is below one. (`Stats::index` succeeds
    only for `n ≠ 0` and a probability in `[0, 1]`; the `min(·, n − 1)` clamp is included.) -/
theorem index_within_one (hR : Rounds fl u n) (pt : RR fl) (p : Rex)
    (hpp : |pt.val - p.val| ≤ ε) (hδ : delta u ε p.val n < 1) (i j : ℕ)
    (hi : Quantile.index n pt = .ok i) (hj : Quantile.index n p = .ok j) : WithinOne i j := by
  obtain ⟨-, -, rfl⟩ := index_fl_eq_ok_iff.mp hi
  obtain ⟨-, hp, rfl⟩ := index_fl_eq_ok_iff.mp hj
  exact rankFl_withinOne hR hp.1 hpp hδ

/-- the same under the uniform smallness condition `(ε + u·(1 + ε))·n < 1` -/
theorem index_within_one' (hR : Rounds fl u n) (pt : RR fl) (p : Rex)
    (hpp : |pt.val - p.val| ≤ ε) (hs : (ε + u * (1 + ε)) * n < 1) (i j : ℕ)
    (hi : Quantile.index n pt = .ok i) (hj : Quantile.index n p = .ok j) : WithinOne i j :=
  index_within_one hR pt p hpp (delta_lt_one n hR.nonneg (index_fl_eq_ok_iff.mp hj).2.1.2 hs)
    i j hi hj

/-- the same, as a statement on the integer difference of the two ranks -/
theorem index_diff_mem (hR : Rounds fl u n) (pt : RR fl) (p : Rex)
    (hpp : |pt.val - p.val| ≤ ε) (hs : (ε + u * (1 + ε)) * n < 1) (i j : ℕ)
    (hi : Quantile.index n pt = .ok i) (hj : Quantile.index n p = .ok j) :
    (i : ℤ) - j ∈ ({-1, 0, 1} : Set ℤ) :=
  (withinOne_iff_mem i j).mp (index_within_one' hR pt p hpp hs i j hi hj)

/-- **Equal ranks away from the rank boundaries.** The two ranks are *equal* unless a rank
    boundary lies within `delta` of `p·n`: it suffices that the clamped floors of
    `p·n − delta` and `p·n + delta` agree (no smallness condition is needed). -/
theorem index_eq_of_stable (hR : Rounds fl u n) (pt : RR fl) (p : Rex)
    (hpp : |pt.val - p.val| ≤ ε) (hst : RankStable u ε n p.val) (i j : ℕ)
    (hi : Quantile.index n pt = .ok i) (hj : Quantile.index n p = .ok j) : i = j := by
  obtain ⟨-, -, rfl⟩ := index_fl_eq_ok_iff.mp hi
  obtain ⟨-, hp, rfl⟩ := index_fl_eq_ok_iff.mp hj
  exact rankFl_eq_rank hR hp.1 hpp hst

/-- in particular when no integer lies within `delta` of `p·n` -/
theorem index_eq_of_floor (hR : Rounds fl u n) (pt : RR fl) (p : Rex)
    (hpp : |pt.val - p.val| ≤ ε)
    (hf : ⌊p.val * n - delta u ε p.val n⌋ = ⌊p.val * n + delta u ε p.val n⌋) (i j : ℕ)
    (hi : Quantile.index n pt = .ok i) (hj : Quantile.index n p = .ok j) : i = j :=
  index_eq_of_stable hR pt p hpp (rankStable_of_floor hf) i j hi hj

/-- `Stats::index` succeeds on both sides for probabilities in `[0, 1]` (so that the theorems
    above are not vacuous), with the ranks `rankFl`, `rank` -/
theorem index_ok (pt : RR fl) (p : Rex) (hn : n ≠ 0) (ht : 0 ≤ pt.val ∧ pt.val ≤ 1)
    (hp : 0 ≤ p.val ∧ p.val ≤ 1) :
    Quantile.index n pt = .ok (rankFl fl n pt.val) ∧ Quantile.index n p = .ok (rank n p.val) :=
  ⟨index_fl_ok n pt hn ht.1 ht.2, index_fl_ok n p hn hp.1 hp.2⟩

/-! ## 2. the success count `round(q·n)` -/

/-- **Success count, equality.** `round (fl (q̃·n))` computed at `RR fl` and `round (q·n)` are
    equal unless a half-integer lies within `delta` of `q·n` -/
theorem successes_eq_of_floor (hR : Rounds fl u n) (qt : RR fl) (q : Rex) (hq : 0 ≤ q.val)
    (hqq : |qt.val - q.val| ≤ ε)
    (hf : ⌊q.val * n + 1 / 2 - delta u ε q.val n⌋ = ⌊q.val * n + 1 / 2 + delta u ε q.val n⌋) :
    roundToNat (mul qt (Scalar.ofNat n : RR fl)) = roundToNat (mul q (Scalar.ofNat n : Rex)) :=
  congrArg Int.toNat (round_eq_of_close (prod_err hR hq hqq) hf)

/-- **Success count, one apart.** In any case the two counts differ by at most one when
    `delta < 1` -/
theorem successes_within_one (hR : Rounds fl u n) (qt : RR fl) (q : Rex) (hq : 0 ≤ q.val)
    (hqq : |qt.val - q.val| ≤ ε) (hδ : delta u ε q.val n < 1) :
    WithinOne (roundToNat (mul qt (Scalar.ofNat n : RR fl)))
      (roundToNat (mul q (Scalar.ofNat n : Rex))) := by
  -- `round x = ⌊x + 1/2⌋`, and the two arguments are as close as the products
  simp only [RR.roundToNat_eq, round_eq]
  refine floor_toNat_withinOne (lt_of_le_of_lt ?_ hδ)
  rw [add_sub_add_right_eq_sub]
  exact prod_err hR hq hqq

/-- **Success count near a natural number.** If `q·n` is within `1/2 − delta` of the natural
    number `m`, both counts are `m` -/
theorem successes_eq_of_near (hR : Rounds fl u n) (qt : RR fl) (q : Rex) (hq : 0 ≤ q.val)
    (hqq : |qt.val - q.val| ≤ ε) (m : ℕ) (hm : |q.val * n - m| + delta u ε q.val n < 1 / 2) :
    roundToNat (mul qt (Scalar.ofNat n : RR fl)) = m ∧
      roundToNat (mul q (Scalar.ofNat n : Rex)) = m := by
  have hd := delta_nonneg (u := u) n hR.nonneg ((abs_nonneg _).trans hqq) hq
  have he := prod_err hR hq hqq
  -- the computed product is within `delta` of `q·n`, which is within `1/2 − delta` of `m`
  have r1 : round (fl (qt.val * fl n)) = (m : ℤ) :=
    round_eq_of_near (by
      rw [Int.cast_natCast]
      exact ((abs_sub_le _ _ _).trans (add_le_add_left he _)).trans_lt (by rwa [add_comm]))
  have r2 : round (q.val * (n : ℝ)) = (m : ℤ) :=
    round_eq_of_near (by rw [Int.cast_natCast]; exact (le_add_of_nonneg_right hd).trans_lt hm)
  exact ⟨congrArg Int.toNat r1, congrArg Int.toNat r2⟩

/-- the same quantile on both sides (`ε = 0`): the error radius is `u·q·n`; the counts are equal
    unless `q·n` is within `u·q·n` of a half-integer, and at most one apart when `u·q·n < 1` -/
theorem successes_same_input (hR : Rounds fl u n) (qt : RR fl) (q : Rex) (hq : 0 ≤ q.val)
    (hqq : qt.val = q.val) :
    (⌊q.val * n + 1 / 2 - u * q.val * n⌋ = ⌊q.val * n + 1 / 2 + u * q.val * n⌋ →
      roundToNat (mul qt (Scalar.ofNat n : RR fl)) = roundToNat (mul q (Scalar.ofNat n : Rex))) ∧
    (u * q.val * n < 1 →
      WithinOne (roundToNat (mul qt (Scalar.ofNat n : RR fl)))
        (roundToNat (mul q (Scalar.ofNat n : Rex)))) := by
  have hqq' : |qt.val - q.val| ≤ 0 := abs_sub_nonpos.mpr hqq
  constructor
  · intro hf
    exact successes_eq_of_floor hR qt q hq hqq' (by rw [delta_zero]; exact hf)
  · intro hδ
    exact successes_within_one hR qt q hq hqq' (by rw [delta_zero]; exact hδ)

/-! ## 3. `ci_indices` -/

section lift
variable (critF : Crit (RR fl)) (confF : Confidence (RR fl)) (qF : RR fl)
  (crit : Crit Rex) (conf : Confidence Rex) (q : Rex)

/-- **The clamp of `ci_wilson` holds at every rounding function.** Whatever `fl` does, an `Ok`
    result of `ci_wilson` at `RR fl` is a two-sided interval `[a, b]` of proportions:
    `0 ≤ a ≤ b ≤ 1`. (No hypothesis on `fl` at all.) -/
theorem ciWilson_fl_bounds (k : ℕ) (I : Interval (RR fl))
    (h : Proportion.ciWilson critF confF n k = .ok I) :
    ∃ a b, I = .twoSided a b ∧ 0 ≤ a.val ∧ a.val ≤ b.val ∧ b.val ≤ 1 :=
  WilsonRound.ciWilson_ok_unit critF confF n k I h

/-- **The computed side, all branches.** Once `ci_wilson` has produced `[a, b]` at `RR fl`,
    `ci_indices` returns the ranks `rankFl` of `a` and `b` in the shape of the confidence
    (`Interval::new` rejecting inverted ranks). There is no `IndexError` branch: the bounds
    `ci_wilson` reports are clamped into `[0, 1]`. -/
theorem ciIndices_fl_outcome (hq : 0 < qF.val ∧ qF.val < 1) (hn4 : 4 ≤ n) (a b : RR fl)
    (hW : Proportion.ciWilson critF confF n (roundToNat (mul qF (Scalar.ofNat n : RR fl))) =
      .ok (.twoSided a b)) :
    ciIndices critF confF n qF =
      match (generalizing := false) confF with
        | .twoSided _ =>
            if rankFl fl n b.val < rankFl fl n a.val then .err (.interval .invalidBounds)
            else .ok (.twoSided (rankFl fl n a.val) (rankFl fl n b.val))
        | .upper _ => .ok (.upper (rankFl fl n a.val))
        | .lower _ => .ok (.lower (rankFl fl n b.val)) :=
  ciIndices_of_wilson critF confF n qF hq hn4 rfl a b hW

/-- **No `IndexError` in rounded arithmetic.** `ci_indices` at `RR fl` never returns an
    `IndexError`, for any rounding function and any inputs: a Wilson bound that rounding pushed
    below 0 or above 1 is clamped by `ci_wilson` before `ci_indices` tests it. -/
theorem ciIndices_fl_no_indexError (x : RR fl) (m : ℕ) :
    ciIndices critF confF n qF ≠ .err (.indexError x m) :=
  ciIndices_ne_indexError critF confF n qF x m

/-- with a monotone rounding function the computed side succeeds as soon as `ci_wilson` does
    (the computed Wilson bounds are inside `[0, 1]` by the clamp, and ordered, so their ranks
    are ordered) -/
theorem ciIndices_fl_ok (hR : Rounds fl u n) (hmono : Monotone fl)
    (hq : 0 < qF.val ∧ qF.val < 1) (hn4 : 4 ≤ n) (a b : RR fl)
    (hW : Proportion.ciWilson critF confF n (roundToNat (mul qF (Scalar.ofNat n : RR fl))) =
      .ok (.twoSided a b)) :
    ciIndices critF confF n qF =
      .ok (match (generalizing := false) confF with
           | .twoSided _ => .twoSided (rankFl fl n a.val) (rankFl fl n b.val)
           | .upper _ => .upper (rankFl fl n a.val)
           | .lower _ => .lower (rankFl fl n b.val)) := by
  rw [ciIndices_fl_outcome critF confF qF hq hn4 a b hW]
  obtain ⟨a', b', hab, -, hle, -⟩ := WilsonRound.ciWilson_ok_unit critF confF n _ _ hW
  cases hab
  have hn0 : (0 : ℝ) ≤ fl n := by rw [hR.nat n le_rfl]; exact Nat.cast_nonneg n
  cases confF with
  | twoSided l =>
    simp only
    rw [if_neg (not_lt.mpr (rankFl_mono hmono hn0 hle))]
  | upper l => rfl
  | lower l => rfl

/-- **The clamp does not hurt the accuracy.** If the *unclamped* bounds `fl (c̃ − s̃)`,
    `fl (c̃ + s̃)` that `ci_wilson` computes at `RR fl` (from its computed centre `c̃` and span `s̃`)
    are within `ε` of the exact Wilson bounds `pLow`, `pHigh`, then the hypothesis `WilsonClose ε`
    of the lifts below holds for the clamped bounds `ci_wilson` reports: both runs end in the same
    clamp, and clamping into `[0, 1]` is 1-Lipschitz (`WilsonRound.wEnds_close`). -/
theorem wilsonClose_of_unclamped (hkind : confF.kind = conf.kind) (k : ℕ) (hn : 0 < n)
    (hkn : k ≤ n)
    (h1 : |(sub (Proportion.wilsonCentre (Scalar.ofNat n : RR fl) (Scalar.ofNat k)
                  (critF (.z confF.quantile)))
                (Proportion.wilsonSpan (Scalar.ofNat n : RR fl) (Scalar.ofNat k)
                  (critF (.z confF.quantile)))).val - pLow n k (zOf crit conf)| ≤ ε)
    (h2 : |(add (Proportion.wilsonCentre (Scalar.ofNat n : RR fl) (Scalar.ofNat k)
                  (critF (.z confF.quantile)))
                (Proportion.wilsonSpan (Scalar.ofNat n : RR fl) (Scalar.ofNat k)
                  (critF (.z confF.quantile)))).val - pHigh n k (zOf crit conf)| ≤ ε) :
    WilsonClose ε (Proportion.ciWilson critF confF n k) (Proportion.ciWilson crit conf n k) := by
  intro aF bF a b hF hE
  refine finishWilson_close confF conf hkind _ _ _ _ ?_ ?_ aF bF a b
    (Proportion.ciWilson_eq_ok_iff.mp hF).2.2.2.2 (Proportion.ciWilson_eq_ok_iff.mp hE).2.2.2.2
  · rw [(Wilson.wilson_val n k _).1, (Wilson.wilson_val n k _).2]; exact h1
  · rw [(Wilson.wilson_val n k _).1, (Wilson.wilson_val n k _).2]; exact h2

/-- **Lift to `ci_indices`: one position.** Run `ci_indices` at `RR fl` (inputs `critF`, `confF`,
    `qF`) and at exact arithmetic (`crit`, `conf`, `q`) for the same sample size, with confidences
    of the same kind. Assume the two success counts agree (section 2 says when), and that the
    Wilson bounds computed for that count at `RR fl` are within `ε` of the exact ones
    (`WilsonClose`, a hypothesis), with `(ε + u·(1 + ε))·n < 1`. Then whenever both runs succeed,
    the two rank intervals have the same kind and each reported rank differs by at most one
    position. -/
theorem ciIndices_within_one (hR : Rounds fl u n) (hkind : confF.kind = conf.kind)
    (hk : roundToNat (mul qF (Scalar.ofNat n : RR fl)) = successes q.val n)
    (hW : WilsonClose ε (Proportion.ciWilson critF confF n (successes q.val n))
      (Proportion.ciWilson crit conf n (successes q.val n)))
    (hs : (ε + u * (1 + ε)) * n < 1) (IF I : Interval ℕ)
    (hF : ciIndices critF confF n qF = .ok IF) (hE : ciIndices crit conf n q = .ok I) :
    IntervalWithinOne IF I := by
  obtain ⟨aF, bF, a, b, -, ⟨ha, hab, hb⟩, ⟨hca, hcb⟩, rfl, rfl⟩ :=
    ciIndices_ok_close critF confF qF crit conf q hk hW hF hE
  have wa : WithinOne (rankFl fl n aF.val) (rank n a.val) :=
    rankFl_withinOne hR ha hca (delta_lt_one n hR.nonneg (le_trans hab hb) hs)
  have wb : WithinOne (rankFl fl n bF.val) (rank n b.val) :=
    rankFl_withinOne hR (le_trans ha hab) hcb (delta_lt_one n hR.nonneg hb hs)
  exact intervalWithinOne_shapeOf hkind (fun _ => wa) (fun _ => wb)

/-- **Lift to `ci_indices`: equality.** Under the same hypotheses (no smallness condition), the
    two rank intervals are *equal* when no rank boundary lies within `delta` of `n` times a
    reported exact Wilson bound. -/
theorem ciIndices_eq_of_stable (hR : Rounds fl u n) (hkind : confF.kind = conf.kind)
    (hk : roundToNat (mul qF (Scalar.ofNat n : RR fl)) = successes q.val n)
    (hW : WilsonClose ε (Proportion.ciWilson critF confF n (successes q.val n))
      (Proportion.ciWilson crit conf n (successes q.val n)))
    (hst : ∀ a b : Rex, Proportion.ciWilson crit conf n (successes q.val n) = .ok (.twoSided a b) →
      (conf.isLower = false → RankStable u ε n a.val) ∧
      (conf.isUpper = false → RankStable u ε n b.val))
    (IF I : Interval ℕ)
    (hF : ciIndices critF confF n qF = .ok IF) (hE : ciIndices crit conf n q = .ok I) :
    IF = I := by
  obtain ⟨aF, bF, a, b, hWE, ⟨ha, hab, hb⟩, ⟨hca, hcb⟩, rfl, rfl⟩ :=
    ciIndices_ok_close critF confF qF crit conf q hk hW hF hE
  obtain ⟨sa, sb⟩ := hst a b hWE
  exact shapeOf_eq_shapeOf hkind (fun h => rankFl_eq_rank hR ha hca (sa h))
    (fun h => rankFl_eq_rank hR (le_trans ha hab) hcb (sb h))

/-- **Lift with the success counts discharged.** The same quantile on both sides, `q·n` within
    `1/2 − u·q·n` of a natural number `m`: both runs use `m` successes, and the hypothesis `hk`
    (the success counts agree) of `ciIndices_within_one` is not needed. -/
theorem ciIndices_within_one_of_near (hR : Rounds fl u n) (hkind : confF.kind = conf.kind)
    (hqq : qF.val = q.val) (m : ℕ) (hm : |q.val * n - m| + u * q.val * n < 1 / 2)
    (hW : WilsonClose ε (Proportion.ciWilson critF confF n m) (Proportion.ciWilson crit conf n m))
    (hs : (ε + u * (1 + ε)) * n < 1) (IF I : Interval ℕ)
    (hF : ciIndices critF confF n qF = .ok IF) (hE : ciIndices crit conf n q = .ok I) :
    IntervalWithinOne IF I := by
  have hq0 : 0 ≤ q.val := (ciIndices_ok_inv crit conf n q I hE).1.1.le
  have hqq' : |qF.val - q.val| ≤ 0 := abs_sub_nonpos.mpr hqq
  obtain ⟨k1, k2⟩ := successes_eq_of_near hR qF q hq0 hqq' m (by rw [delta_zero]; exact hm)
  rw [Quantile.roundToNat_eq] at k2
  exact ciIndices_within_one critF confF qF crit conf q hR hkind (by rw [k1, k2])
    (by rw [k2]; exact hW) hs IF I hF hE

end lift

/-! ## non-vacuity, and the allowance is necessary

  * `flIdx = nudge 3.001 2.999`, `u = 1/1000`, `n = 10`: `Rounds` holds, the product
    `0.3001·10 = 3.001` is rounded to `2.999`, and `Stats::index` returns rank 2 at `RR flIdx`
    but rank 3 exactly — all hypotheses of `index_within_one'` hold (`ε = 0`), the ranks differ
    by one.
  * `flRnd = nudge 2.4999 2.5001`: the success count is 3 at `RR flRnd`, 2 exactly.
  * `fl16 = nudge 12.8 13`, `u = 1/64`, `n = 16`, `q = 1/2`, `z = 3`, lower one-sided: every
    Wilson number is computed exactly (`pHigh = 4/5` on both sides, `ε = 0`), the product
    `0.8·16 = 12.8` is rounded to `13`, and `ci_indices` returns `(←, 13]` at `RR fl16` but
    `(←, 12]` exactly — all hypotheses of `ciIndices_within_one` hold.
  * `flC = nudge 0.8 1.1`, `u = 1/2`, same instance: the unclamped upper Wilson bound is computed
    as `1.1`, `ci_wilson` reports the clamped `[0, 1]`, and `ci_indices` returns `(←, 15]`
    instead of an `IndexError` — the clamp does act at `RR fl`.
  * exact arithmetic `fl = id` with positive `u`, `ε`: the hypotheses of the lift hold with the
    two-sided instance of C03 (`n = 10`, `q = 1/2`, `z = 2`, ranks `[2, 7]`). -/

section nonvacuity

/-- `index`: hypotheses satisfiable, and the two ranks really are one position apart -/
example :
    Rounds flIdx (1 / 1000) 10 ∧
    |(inj (3001 / 10000) : RR flIdx).val - (inj (3001 / 10000) : Rex).val| ≤ 0 ∧
    ((0 : ℝ) + 1 / 1000 * (1 + 0)) * ((10 : ℕ) : ℝ) < 1 ∧
    Quantile.index 10 (inj (3001 / 10000) : RR flIdx) = .ok 2 ∧
    Quantile.index 10 (inj (3001 / 10000) : Rex) = .ok 3 ∧
    WithinOne 2 3 := by
  have hu : (0 : ℝ) ≤ 3001 / 10000 ∧ (3001 / 10000 : ℝ) ≤ 1 := by constructor <;> norm_num
  have h := index_ok (n := 10) (inj (3001 / 10000) : RR flIdx) (inj (3001 / 10000) : Rex)
    (by decide) hu hu
  have h1 : Quantile.index 10 (inj (3001 / 10000) : RR flIdx) = .ok 2 := by
    rw [h.1, inj_val, rankFl_flIdx]
  have h2 : Quantile.index 10 (inj (3001 / 10000) : Rex) = .ok 3 := by
    rw [h.2, inj_val, rank_idx]
  have hpp : |(inj (3001 / 10000) : RR flIdx).val - (inj (3001 / 10000) : Rex).val| ≤ 0 :=
    abs_sub_nonpos.mpr rfl
  have hs : ((0 : ℝ) + 1 / 1000 * (1 + 0)) * ((10 : ℕ) : ℝ) < 1 := by norm_num
  exact ⟨rounds_flIdx, hpp, hs, h1, h2,
    index_within_one' rounds_flIdx _ _ hpp hs 2 3 h1 h2⟩

/-- `index_eq_of_floor`: hypotheses satisfiable (`p = 0.35`, `n = 10`, `p·n = 3.5` is far from
    every integer), same rounding function as above -/
example :
    ⌊(inj (7 / 20) : Rex).val * ((10 : ℕ) : ℝ) - delta (1 / 1000) 0 (inj (7 / 20) : Rex).val 10⌋ =
      ⌊(inj (7 / 20) : Rex).val * ((10 : ℕ) : ℝ) + delta (1 / 1000) 0 (inj (7 / 20) : Rex).val 10⌋ ∧
    ∃ i, Quantile.index 10 (inj (7 / 20) : RR flIdx) = .ok i ∧
      Quantile.index 10 (inj (7 / 20) : Rex) = .ok i := by
  have hu : (0 : ℝ) ≤ 7 / 20 ∧ (7 / 20 : ℝ) ≤ 1 := by constructor <;> norm_num
  have h := index_ok (n := 10) (inj (7 / 20) : RR flIdx) (inj (7 / 20) : Rex) (by decide) hu hu
  refine (and_iff_left_of_imp fun hf => ⟨_, h.1, ?_⟩).mpr ?_
  · rw [inj_val, (Int.floor_eq_iff (z := 3)).mpr (by norm_num [delta]),
      (Int.floor_eq_iff (z := 3)).mpr (by norm_num [delta])]
  · rw [index_eq_of_floor rounds_flIdx (inj (7 / 20)) (inj (7 / 20))
      (abs_sub_nonpos.mpr rfl) hf _ _ h.1 h.2]
    exact h.2

/-- the success count: hypotheses of `successes_within_one` satisfiable (`ε = 0`,
    `delta = u·q·n < 1`), and the two counts really are one apart -/
example :
    Rounds flRnd (1 / 1000) 10 ∧ delta (1 / 1000) 0 (inj (24999 / 100000) : Rex).val 10 < 1 ∧
    roundToNat (mul (inj (24999 / 100000) : RR flRnd) (Scalar.ofNat 10)) = 3 ∧
    roundToNat (mul (inj (24999 / 100000) : Rex) (Scalar.ofNat 10)) = 2 := by
  refine ⟨rounds_flRnd, by unfold delta; norm_num, ?_, ?_⟩
  · rw [roundToNat_fl, inj_val, succFl_flRnd]
  · rw [Quantile.roundToNat_eq, inj_val, successes_rnd]

/-- the success count: hypotheses of `successes_eq_of_near` satisfiable (`q = 1/2`, `n = 16`,
    `m = 8`) -/
example :
    |(inj (1 / 2) : Rex).val * ((16 : ℕ) : ℝ) - ((8 : ℕ) : ℝ)| +
      delta (1 / 64) 0 (inj (1 / 2) : Rex).val 16 < 1 / 2 := by
  unfold delta; norm_num

/-- `ci_indices`: every hypothesis of `ciIndices_within_one` holds for the rounding function
    `fl16` (`u = 1/64`, `ε = 0`), both runs succeed, and the reported ranks are 13 and 12: the
    "one position" allowance is attained -/
example :
    Rounds fl16 (1 / 64) 16 ∧
    (Confidence.lower (inj (9 / 10)) : Confidence (RR fl16)).kind =
      (Confidence.lower (inj (9 / 10)) : Confidence Rex).kind ∧
    roundToNat (mul (inj (1 / 2) : RR fl16) (Scalar.ofNat 16)) =
      successes (inj (1 / 2) : Rex).val 16 ∧
    WilsonClose 0
      (Proportion.ciWilson (constCrit 3 : Crit (RR fl16)) (.lower (inj (9 / 10))) 16
        (successes (inj (1 / 2) : Rex).val 16))
      (Proportion.ciWilson (constCrit 3 : Crit Rex) (.lower (inj (9 / 10))) 16
        (successes (inj (1 / 2) : Rex).val 16)) ∧
    ((0 : ℝ) + 1 / 64 * (1 + 0)) * ((16 : ℕ) : ℝ) < 1 ∧
    ciIndices (constCrit 3 : Crit (RR fl16)) (.lower (inj (9 / 10))) 16 (inj (1 / 2)) =
      .ok (.lower 13) ∧
    ciIndices (constCrit 3 : Crit Rex) (.lower (inj (9 / 10))) 16 (inj (1 / 2)) =
      .ok (.lower 12) ∧
    IntervalWithinOne (.lower 13) (.lower 12) := by
  have hk' : roundToNat (mul (inj (1 / 2) : RR fl16) (Scalar.ofNat 16)) =
      successes (inj (1 / 2) : Rex).val 16 := by
    rw [roundToNat_fl, inj_val, succFl_fl16, successes_half_16]
  have hW : WilsonClose 0
      (Proportion.ciWilson (constCrit 3 : Crit (RR fl16)) (.lower (inj (9 / 10))) 16
        (successes (inj (1 / 2) : Rex).val 16))
      (Proportion.ciWilson (constCrit 3 : Crit Rex) (.lower (inj (9 / 10))) 16
        (successes (inj (1 / 2) : Rex).val 16)) := by
    rw [successes_half_16, ciWilson_fl16, ciWilson_ex16]
    intro aF bF a b h1 h2
    cases h1; cases h2
    exact ⟨abs_sub_nonpos.mpr rfl, abs_sub_nonpos.mpr rfl⟩
  have hs : ((0 : ℝ) + 1 / 64 * (1 + 0)) * ((16 : ℕ) : ℝ) < 1 := by norm_num
  exact ⟨rounds_fl16, rfl, hk', hW, hs, ciIndices_fl16, ciIndices_ex16,
    ciIndices_within_one _ _ _ _ _ _ rounds_fl16 rfl hk' hW hs _ _ ciIndices_fl16 ciIndices_ex16⟩

/-- `ci_indices`, two-sided, positive `u` and `ε` (exact arithmetic meets `Rounds id u n` for
    every `u ≥ 0`): the hypotheses of the lift hold and both runs return `[2, 7]` -/
example :
    Rounds id (1 / 1000) 10 ∧
    roundToNat (mul (inj (1 / 2) : Rex) (Scalar.ofNat 10)) = successes (inj (1 / 2) : Rex).val 10 ∧
    WilsonClose (fl := id) (1 / 1000)
      (Proportion.ciWilson (constCrit 2 : Crit Rex) (.twoSided (inj (9 / 10))) 10
        (successes (inj (1 / 2) : Rex).val 10))
      (Proportion.ciWilson (constCrit 2 : Crit Rex) (.twoSided (inj (9 / 10))) 10
        (successes (inj (1 / 2) : Rex).val 10)) ∧
    ((1 / 1000 : ℝ) + 1 / 1000 * (1 + 1 / 1000)) * ((10 : ℕ) : ℝ) < 1 ∧
    ciIndices (constCrit 2 : Crit Rex) (.twoSided (inj (9 / 10))) 10 (inj (1 / 2)) =
      .ok (.twoSided 2 7) := by
  exact ⟨rounds_id (by norm_num) 10, Quantile.roundToNat_eq _ _,
    wilsonClose_self (by norm_num) _, by norm_num, ciIndices_10_half_two⟩

/-- `ciIndices_fl_ok`: its hypotheses hold for the (monotone) identity on the `n = 16` instance
    (the single-point `nudge` functions above are not monotone) -/
example :
    Monotone (id : ℝ → ℝ) ∧ Rounds id (1 / 64) 16 ∧
    Proportion.ciWilson (constCrit 3 : Crit Rex) (.lower (inj (9 / 10))) 16
      (roundToNat (mul (inj (1 / 2) : Rex) (Scalar.ofNat 16))) =
        .ok (.twoSided (inj 0) (inj (4 / 5))) := by
  refine ⟨monotone_id, rounds_id (by norm_num) 16, ?_⟩
  rw [Quantile.roundToNat_eq, successes_half_16]
  exact ciWilson_ex16

/-- the clamp acts at `RR fl`: with `flC` (`Rounds flC (1/2) 16`) the unclamped upper bound is
    computed as `1.1`, `ci_wilson` reports `[0, 1]` (`ciWilson_fl_bounds`, `ciIndices_fl_outcome`
    apply), and `ci_indices` returns the last position instead of `IndexError(1.1, 16)` -/
example :
    Rounds flC (1 / 2) 16 ∧
    (add (Proportion.wilsonCentre (Scalar.ofNat 16 : RR flC) (Scalar.ofNat 8) (inj 3))
      (Proportion.wilsonSpan (Scalar.ofNat 16 : RR flC) (Scalar.ofNat 8) (inj 3))).val = 11 / 10 ∧
    Proportion.ciWilson (constCrit 3 : Crit (RR flC)) (.lower (inj (9 / 10))) 16
      (roundToNat (mul (inj (1 / 2) : RR flC) (Scalar.ofNat 16))) =
        .ok (.twoSided (inj 0) (inj 1)) ∧
    ciIndices (constCrit 3 : Crit (RR flC)) (.lower (inj (9 / 10))) 16 (inj (1 / 2)) =
      .ok (.lower 15) := by
  refine ⟨rounds_flC, unclamped_flC, ?_, ciIndices_flC⟩
  rw [roundToNat_fl, inj_val, succFl_flC]
  exact ciWilson_flC

/-- `wilsonClose_of_unclamped`: its hypotheses hold with `ε = 0` on the `fl16` instance (every
    Wilson number is computed exactly there: `pLow = 1/5`, `pHigh = 4/5`) -/
example :
    (Confidence.lower (inj (9 / 10)) : Confidence (RR fl16)).kind =
      (Confidence.lower (inj (9 / 10)) : Confidence Rex).kind ∧ 0 < 16 ∧ 8 ≤ 16 ∧
    |(sub (Proportion.wilsonCentre (Scalar.ofNat 16 : RR fl16) (Scalar.ofNat 8)
            ((constCrit 3 : Crit (RR fl16))
              (.z (Confidence.lower (inj (9 / 10)) : Confidence (RR fl16)).quantile)))
          (Proportion.wilsonSpan (Scalar.ofNat 16 : RR fl16) (Scalar.ofNat 8)
            ((constCrit 3 : Crit (RR fl16))
              (.z (Confidence.lower (inj (9 / 10)) : Confidence (RR fl16)).quantile)))).val -
        pLow 16 8 (zOf (constCrit 3 : Crit Rex) (.lower (inj (9 / 10))))| ≤ 0 ∧
    |(add (Proportion.wilsonCentre (Scalar.ofNat 16 : RR fl16) (Scalar.ofNat 8)
            ((constCrit 3 : Crit (RR fl16))
              (.z (Confidence.lower (inj (9 / 10)) : Confidence (RR fl16)).quantile)))
          (Proportion.wilsonSpan (Scalar.ofNat 16 : RR fl16) (Scalar.ofNat 8)
            ((constCrit 3 : Crit (RR fl16))
              (.z (Confidence.lower (inj (9 / 10)) : Confidence (RR fl16)).quantile)))).val -
        pHigh 16 8 (zOf (constCrit 3 : Crit Rex) (.lower (inj (9 / 10))))| ≤ 0 := by
  have hzF : (constCrit 3 : Crit (RR fl16))
      (.z (Confidence.lower (inj (9 / 10)) : Confidence (RR fl16)).quantile) = inj 3 := rfl
  have hz : zOf (constCrit 3 : Crit Rex) (.lower (inj (9 / 10))) = 3 := rfl
  refine ⟨rfl, by norm_num, by norm_num, ?_, ?_⟩
  · rw [hzF, hz, centre_fl16, span_fl16, pLow_16_8_3]
    norm_num [fl16, nudge]
  · rw [hzF, hz, centre_fl16, span_fl16, pHigh_16_8_3]
    norm_num [fl16, nudge]

end nonvacuity

end StatsCI.C03R
