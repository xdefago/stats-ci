/-
  C12 (structural part) — what the coverage of the proportion and quantile intervals is the
  probability *of*, on the model at exact real arithmetic (`Rex = RR id`); the numerical evaluation
  of coverage (binomial sums at given `n`, `p`, level) is done by the driver.

  Test inversion: `p` lies in the Wilson interval iff the score statistic at `p` is at most `z`, so
  the coverage probability is the weight of the outcomes `k` the score test accepts (for the model
  function among `2 ≤ k ≤ n − 2` only: it rejects the rest).  For the quantile interval
  `[s[lo], s[hi]]` of the sorted data, containing `ξ` is a statement about the two counts `#{x ≤ ξ}`
  and `#{x < ξ}`.  §5 puts a floor under the *exact* binomial coverage, for every `n ≥ 1`,
  `p ∈ [0,1]` and `z > 0` at once: `1 − 1/z²` two-sided (Chebyshev with the binomial variance
  `p(1−p)/n`), `z²/(1 + z²)` for each one-sided bound (Cantelli, from the binomial mean and
  variance).  This is far from the nominal level (0.74 at z = 1.96); how close to nominal the
  coverage actually is remains a numerical fact, evaluated exactly by the driver.

  `lowerR n k z` / `upperR n k z` are by definition
  `(wilsonCentre ⟨n⟩ ⟨k⟩ ⟨z⟩).val ∓ (wilsonSpan ⟨n⟩ ⟨k⟩ ⟨z⟩).val` (`Lemmas/WilsonMono.lean`).
-/
import StatsCI.Lemmas.WilsonMono
import StatsCI.Lemmas.Sorted
import Mathlib.Algebra.BigOperators.Group.Finset.Basic
import StatsCI.Lemmas.Binomial

namespace StatsCI.C12
open StatsCI Proportion WilsonMono

/-! ### 1. test inversion -/

/-- `p` is inside the Wilson interval iff the score test at `p` accepts: `(p − k/n)² ≤ z² p(1−p)/n`.
    Every real `p` (no restriction to `[0,1]`), every real `0 ≤ k ≤ n`, `z ≥ 0`. -/
theorem duality (n k z p : ℝ) (hn : 0 < n) (hz : 0 ≤ z) (hk0 : 0 ≤ k) (hkn : k ≤ n) :
    (lowerR n k z ≤ p ∧ p ≤ upperR n k z) ↔ (p - k / n) ^ 2 ≤ z ^ 2 * (p * (1 - p)) / n :=
  WilsonMono.duality n k z p hn hz hk0 hkn

example : (lowerR 10 3 2 ≤ 0.4 ∧ 0.4 ≤ upperR 10 3 2) ↔
    ((0.4 : ℝ) - 3 / 10) ^ 2 ≤ 2 ^ 2 * (0.4 * (1 - 0.4)) / 10 :=
  duality 10 3 2 0.4 (by norm_num) (by norm_num) (by norm_num) (by norm_num)

/-- both sides of the equivalence occur: `0.4` is inside, `0.9` is outside the interval for 3/10, z = 2 -/
example : (lowerR 10 3 2 ≤ 0.4 ∧ 0.4 ≤ upperR 10 3 2) ∧ ¬ (lowerR 10 3 2 ≤ 0.9 ∧ 0.9 ≤ upperR 10 3 2) := by
  rw [duality 10 3 2 0.4 (by norm_num) (by norm_num) (by norm_num) (by norm_num),
    duality 10 3 2 0.9 (by norm_num) (by norm_num) (by norm_num) (by norm_num)]
  norm_num

/-- both ends are roots of the score equation -/
theorem score_roots (n k z : ℝ) (hn : 0 < n) (hk0 : 0 ≤ k) (hkn : k ≤ n) :
    (lowerR n k z - k / n) ^ 2 = z ^ 2 * (lowerR n k z * (1 - lowerR n k z)) / n ∧
    (upperR n k z - k / n) ^ 2 = z ^ 2 * (upperR n k z * (1 - upperR n k z)) / n :=
  ⟨score_root_lower n k z hn hk0 hkn, score_root_upper n k z hn hk0 hkn⟩

/-! ### 2. one-sided analogues -/

example : lowerR 10 3 2 ≤ 0.2 ↔ (3 : ℝ) / 10 - 0.2 ≤ 2 * Real.sqrt (0.2 * (1 - 0.2) / 10) :=
  duality_lower 10 3 2 0.2 (by norm_num) (by norm_num) (by norm_num) (by norm_num)

/-- test inversion for the interval the model function returns, all three kinds of confidence.
    For the one-sided kinds the far end is `1` resp. `0`, so `p` is taken on the near side of it. -/
theorem duality_interval (crit : Crit Rex) (conf : Confidence Rex) (n k : ℕ) (hk : 2 ≤ k)
    (hkn : k + 2 ≤ n) (hv : Confidence.validLevel conf.level = true)
    (hz : 0 ≤ (crit (.z conf.quantile)).val) :
    ∃ i : Interval Rex, ciWilson crit conf n k = .ok i ∧
      match (generalizing := false) conf with
      | .twoSided _ => ∀ p : ℝ, i.contains ⟨p⟩ = true ↔
          (p - k / n) ^ 2 ≤ (crit (.z conf.quantile)).val ^ 2 * (p * (1 - p)) / n
      | .upper _ => ∀ p : ℝ, p ≤ 1 → (i.contains ⟨p⟩ = true ↔
          k / n - p ≤ (crit (.z conf.quantile)).val * Real.sqrt (p * (1 - p) / n))
      | .lower _ => ∀ p : ℝ, 0 ≤ p → (i.contains ⟨p⟩ = true ↔
          p - k / n ≤ (crit (.z conf.quantile)).val * Real.sqrt (p * (1 - p) / n)) := by
  obtain ⟨hn, h0, h2⟩ := Wilson.cast_dom (by omega : 0 < n) (by omega : k ≤ n)
  refine ⟨_, ciWilson_ok crit conf n k hk hkn hv hz, ?_⟩
  cases conf with
  | twoSided l => exact fun p => (contains_twoSided _ _ p).trans (duality n k _ p hn hz h0 h2)
  | upper l =>
    exact fun p hp => (contains_twoSided _ _ p).trans
      ((and_iff_left hp).trans (duality_lower n k _ p hn hz h0 h2))
  | lower l =>
    exact fun p hp => (contains_twoSided _ _ p).trans
      ((and_iff_right hp).trans (duality_upper n k _ p hn hz h0 h2))

example : Confidence.validLevel (Confidence.twoSided (⟨0.95⟩ : Rex)).level = true ∧
    0 ≤ ((constCrit 2 : Crit Rex) (.z (Confidence.twoSided (⟨0.95⟩ : Rex)).quantile)).val := by
  constructor
  · exact RR.validLevel_95
  · norm_num [constCrit]

/-! ### 3. coverage as a weighted count of accepted outcomes -/

/-- With `w k` the probability of `k` successes (the binomial pmf, but any weights do), the
    coverage probability of the Wilson interval at `p` is the total weight of the `k` the score test
    accepts. -/
theorem coverage_form (n : ℕ) (hn : 0 < n) (z p : ℝ) (hz : 0 ≤ z) (w : ℕ → ℝ) :
    ∑ k ∈ Finset.range (n + 1),
        w k * (if lowerR n k z ≤ p ∧ p ≤ upperR n k z then 1 else 0)
      = ∑ k ∈ Finset.range (n + 1),
        w k * (if (p - k / n) ^ 2 ≤ z ^ 2 * (p * (1 - p)) / n then 1 else 0) := by
  refine Finset.sum_congr rfl fun k hk => ?_
  obtain ⟨hn', hk0, hkn⟩ := Wilson.cast_dom hn (Nat.lt_succ_iff.mp (Finset.mem_range.mp hk))
  simp only [duality n k z p hn' hz hk0 hkn]

example : ∑ k ∈ Finset.range (10 + 1),
      (fun _ => (1 : ℝ) / 11) k * (if lowerR (10 : ℕ) k 2 ≤ 0.3 ∧ 0.3 ≤ upperR (10 : ℕ) k 2 then 1 else 0)
    = ∑ k ∈ Finset.range (10 + 1),
      (fun _ => (1 : ℝ) / 11) k * (if ((0.3 : ℝ) - k / (10 : ℕ)) ^ 2 ≤ 2 ^ 2 * (0.3 * (1 - 0.3)) / (10 : ℕ) then 1 else 0) :=
  coverage_form 10 (by norm_num) 2 0.3 (by norm_num) _

/-- The same for the model function: counting an outcome as covered when `ci_wilson` returns an
    interval that contains `p` (`coversB`; a rejected call covers nothing), the coverage of the
    two-sided interval is the weight of the accepted `k` among `2 ≤ k ≤ n − 2` only — the outcomes
    `k < 2` and `k > n − 2`, which the crate rejects, are lost. -/
theorem coverage_form_crate (crit : Crit Rex) (l : Rex) (n : ℕ) (p : ℝ) (w : ℕ → ℝ)
    (hv : Confidence.validLevel l = true)
    (hz : 0 ≤ (crit (.z (Confidence.twoSided l).quantile)).val) :
    ∑ k ∈ Finset.range (n + 1),
        w k * (if coversB crit (.twoSided l) n k p = true then 1 else 0)
      = ∑ k ∈ (Finset.range (n + 1)).filter (fun k => 2 ≤ k ∧ k + 2 ≤ n),
        w k * (if (p - k / n) ^ 2
            ≤ (crit (.z (Confidence.twoSided l).quantile)).val ^ 2 * (p * (1 - p)) / n
          then 1 else 0) := by
  rw [Finset.sum_filter]
  apply Finset.sum_congr rfl
  intro k _
  by_cases hc : 2 ≤ k ∧ k + 2 ≤ n
  · rw [if_pos hc]
    obtain ⟨i, hi, hd⟩ := duality_interval crit (.twoSided l) n k hc.1 hc.2 hv hz
    rw [coversB_of_ok hi]
    simp only [hd p]
  · rw [if_neg hc, coversB_outside crit _ n k p hc]
    simp

example : ∑ k ∈ Finset.range (10 + 1),
      (fun _ => (1 : ℝ) / 11) k * (if coversB (constCrit 2) (.twoSided ⟨0.95⟩) 10 k 0.3 = true then 1 else 0)
    = ∑ k ∈ (Finset.range (10 + 1)).filter (fun k => 2 ≤ k ∧ k + 2 ≤ 10),
      (fun _ => (1 : ℝ) / 11) k * (if ((0.3 : ℝ) - k / (10 : ℕ)) ^ 2
          ≤ ((constCrit 2 : Crit Rex) (.z (Confidence.twoSided (⟨0.95⟩ : Rex)).quantile)).val ^ 2
            * (0.3 * (1 - 0.3)) / (10 : ℕ) then 1 else 0) :=
  coverage_form_crate (constCrit 2) ⟨0.95⟩ 10 0.3 _ RR.validLevel_95
    (by norm_num [constCrit])

/-! ### 4. the quantile interval: coverage is a statement about two counts -/

section quantile
variable {α : Type} [LinearOrder α]

/-- For the sorted data `s` (the model's `sortData`: `List.mergeSort` with the `≤` test), indices
    `lo`, `hi` in range and any `ξ`:
    `s[lo] ≤ ξ` iff at least `lo + 1` data points are `≤ ξ`; `ξ ≤ s[hi]` iff at most `hi` data points
    are `< ξ`.  So `ξ ∈ [s[lo], s[hi]]` iff `lo + 1 ≤ #{x ≤ ξ}` and `#{x < ξ} ≤ hi` (for a continuous
    distribution the two counts agree almost surely and are Binomial(n, q) at the `q`-quantile `ξ`). -/
theorem quantile_form (xs : List α) (ξ : α) (lo hi : ℕ)
    (hlo : lo < (xs.mergeSort (fun a b => decide (a ≤ b))).length)
    (hhi : hi < (xs.mergeSort (fun a b => decide (a ≤ b))).length) :
    ((xs.mergeSort (fun a b => decide (a ≤ b)))[lo] ≤ ξ
        ↔ lo + 1 ≤ xs.countP (fun x => decide (x ≤ ξ))) ∧
    (ξ ≤ (xs.mergeSort (fun a b => decide (a ≤ b)))[hi]
        ↔ xs.countP (fun x => decide (x < ξ)) ≤ hi) ∧
    ((xs.mergeSort (fun a b => decide (a ≤ b)))[lo] ≤ ξ ∧
      ξ ≤ (xs.mergeSort (fun a b => decide (a ≤ b)))[hi]
        ↔ lo + 1 ≤ xs.countP (fun x => decide (x ≤ ξ)) ∧
          xs.countP (fun x => decide (x < ξ)) ≤ hi) := by
  have h1 := Quantile.sorted_le_iff xs ξ lo hlo
  have h2 := Quantile.le_sorted_iff xs ξ hi hhi
  exact ⟨h1, h2, and_congr h1 h2⟩

/-- the sorted version has the length of the data, so `lo ≤ hi < xs.length` are in range -/
theorem sorted_length (xs : List α) :
    (xs.mergeSort (fun a b => decide (a ≤ b))).length = xs.length :=
  List.length_mergeSort _

attribute [local instance] Cmp.ofLinearOrder in
/-- that list is what the model's `Quantile.sortData` produces on a linearly ordered element type
    (no incomparable element, hence no panic) -/
theorem sortData_is_mergeSort {W : Type} [Scalar W] (xs : List α) :
    Quantile.sortData (W := W) xs = .ok (xs.mergeSort (fun a b => decide (a ≤ b))) :=
  Quantile.sortData_eq xs

end quantile

/-- data `3,1,2` (sorted `1,2,3`), `ξ = 2`, `lo = 0`, `hi = 1`: the indices are in range, and since
    `#{x ≤ 2} = 2 ≥ 1` and `#{x < 2} = 1 ≤ 1`, `s[0] ≤ 2 ≤ s[1]` -/
example : ∃ (h0 : 0 < (([3, 1, 2] : List ℤ).mergeSort (fun a b => decide (a ≤ b))).length)
    (h1 : 1 < (([3, 1, 2] : List ℤ).mergeSort (fun a b => decide (a ≤ b))).length),
    (([3, 1, 2] : List ℤ).mergeSort (fun a b => decide (a ≤ b)))[0] ≤ 2 ∧
    2 ≤ (([3, 1, 2] : List ℤ).mergeSort (fun a b => decide (a ≤ b)))[1] :=
  ⟨by rw [sorted_length]; decide, by rw [sorted_length]; decide,
   (quantile_form ([3, 1, 2] : List ℤ) 2 0 1 _ _).2.2.mpr (by decide)⟩

/-! ### 5. a floor under the exact binomial coverage, for every `n`, `p` and `z` -/

open Binomial in
/-- **Coverage floor.**  `k ~ Bin(n, p)`: the Wilson interval `[lowerR n k z, upperR n k z]`
    contains `p` with probability at least `1 − 1/z²`, whatever `n ≥ 1`, `p ∈ [0,1]`, `z > 0`. -/
theorem coverage_floor (n : ℕ) (hn : 0 < n) (z p : ℝ) (hz : 0 < z) (hp0 : 0 ≤ p) (hp1 : p ≤ 1) :
    1 - 1 / z ^ 2 ≤ ∑ k ∈ Finset.range (n + 1),
      Binomial.pmf n k p * (if lowerR n k z ≤ p ∧ p ≤ upperR n k z then 1 else 0) := by
  rw [coverage_form n hn z p hz.le]
  exact Binomial.score_region_mass n (Nat.pos_iff_ne_zero.mp hn) hp0 hp1 hz

/-- the weights are a probability distribution -/
theorem pmf_is_distribution (n : ℕ) (p : ℝ) (hp0 : 0 ≤ p) (hp1 : p ≤ 1) :
    (∀ k, 0 ≤ Binomial.pmf n k p) ∧ ∑ k ∈ Finset.range (n + 1), Binomial.pmf n k p = 1 :=
  ⟨fun k => Binomial.pmf_nonneg n k hp0 hp1, Binomial.pmf_sum n hp0 hp1⟩

/-- a coverage never exceeds one (so the floor is not met by an ill-normalised sum) -/
theorem coverage_le_one (n : ℕ) (z p : ℝ) (hp0 : 0 ≤ p) (hp1 : p ≤ 1) :
    ∑ k ∈ Finset.range (n + 1),
      Binomial.pmf n k p * (if lowerR n k z ≤ p ∧ p ≤ upperR n k z then 1 else 0) ≤ 1 := by
  refine le_trans (Finset.sum_le_sum (g := fun k => Binomial.pmf n k p) fun k _ =>
    mul_le_of_le_one_right (Binomial.pmf_nonneg n k hp0 hp1) ?_) (Binomial.pmf_sum n hp0 hp1).le
  split_ifs
  exacts [le_rfl, zero_le_one]

/-- **Coverage floor for the model function** (`ci_wilson`, two-sided): the outcomes `k < 2` and
    `k > n − 2`, which the crate rejects, are lost; nothing else is. -/
theorem coverage_floor_crate (crit : Crit Rex) (l : Rex) (n : ℕ) (hn : 0 < n) (p : ℝ)
    (hp0 : 0 ≤ p) (hp1 : p ≤ 1) (hv : Confidence.validLevel l = true)
    (hz : 0 < (crit (.z (Confidence.twoSided l).quantile)).val) :
    1 - 1 / (crit (.z (Confidence.twoSided l).quantile)).val ^ 2 - Binomial.edgeMass n p
      ≤ ∑ k ∈ Finset.range (n + 1),
        Binomial.pmf n k p * (if coversB crit (.twoSided l) n k p = true then 1 else 0) := by
  rw [coverage_form_crate crit l n p _ hv hz.le]
  exact Binomial.score_region_mass_inner n (Nat.pos_iff_ne_zero.mp hn) hp0 hp1 hz

/-- at the same critical value a one-sided interval covers whenever the two-sided one does -/
theorem coverage_one_sided_ge (crit : Crit Rex) (l : Rex) (n k : ℕ) (p : ℝ)
    (hp0 : 0 ≤ p) (hp1 : p ≤ 1) (hv : Confidence.validLevel l = true)
    (hzq : ∀ c : Confidence Rex, 0 ≤ (crit (.z c.quantile)).val)
    (hsame : (crit (.z (Confidence.upper l).quantile)).val = (crit (.z (Confidence.twoSided l).quantile)).val ∧
             (crit (.z (Confidence.lower l).quantile)).val = (crit (.z (Confidence.twoSided l).quantile)).val)
    (h2 : coversB crit (.twoSided l) n k p = true) :
    coversB crit (.upper l) n k p = true ∧ coversB crit (.lower l) n k p = true := by
  by_cases hc : 2 ≤ k ∧ k + 2 ≤ n
  · have e := fun c (hl : Confidence.validLevel c.level = true) => coversB_of_ok
      (ciWilson_ok crit c n k hc.1 hc.2 hl (hzq c)) p
    rw [e (.twoSided l) hv] at h2
    rw [e (.upper l) hv, e (.lower l) hv, hsame.1, hsame.2]
    simp only [propShape, contains_twoSided] at h2 ⊢
    exact ⟨⟨h2.1, hp1⟩, hp0, h2.2⟩
  · rw [coversB_outside crit _ n k p hc] at h2
    exact absurd h2 (by simp)

/-- **One-sided coverage floor** (Cantelli's inequality for the binomial distribution): the lower
    confidence bound — the finite end of the upper one-sided interval `[lowerR n k z, 1]` — lies below `p`
    with probability at least `1 − 1/(1 + z²) = z²/(1 + z²)`, for every `n ≥ 1`, `p ∈ [0, 1]`, `z > 0`
    (sharper than the two-sided floor `1 − 1/z²`: 0.73 instead of 0.63 at `z = 1.645`). -/
theorem coverage_floor_lower_bound (n : ℕ) (hn : 0 < n) (z p : ℝ) (hz : 0 < z) (hp0 : 0 ≤ p)
    (hp1 : p ≤ 1) :
    1 - 1 / (1 + z ^ 2) ≤ ∑ k ∈ Finset.range (n + 1),
      Binomial.pmf n k p * (if lowerR n k z ≤ p then 1 else 0) := by
  have h := Binomial.one_sided_region_mass n (Nat.pos_iff_ne_zero.mp hn) (s := 1) (by norm_num)
    hp0 hp1 hz
  refine le_trans h (le_of_eq (Finset.sum_congr rfl fun k hk => ?_))
  obtain ⟨hn', hk0, hkn⟩ := Wilson.cast_dom hn (Nat.lt_succ_iff.mp (Finset.mem_range.mp hk))
  simp only [one_mul, duality_lower n k z p hn' hz.le hk0 hkn]

/-- the same for the upper confidence bound (the finite end of the lower one-sided interval
    `[0, upperR n k z]`) -/
theorem coverage_floor_upper_bound (n : ℕ) (hn : 0 < n) (z p : ℝ) (hz : 0 < z) (hp0 : 0 ≤ p)
    (hp1 : p ≤ 1) :
    1 - 1 / (1 + z ^ 2) ≤ ∑ k ∈ Finset.range (n + 1),
      Binomial.pmf n k p * (if p ≤ upperR n k z then 1 else 0) := by
  have h := Binomial.one_sided_region_mass n (Nat.pos_iff_ne_zero.mp hn) (s := -1) (by norm_num)
    hp0 hp1 hz
  refine le_trans h (le_of_eq (Finset.sum_congr rfl fun k hk => ?_))
  obtain ⟨hn', hk0, hkn⟩ := Wilson.cast_dom hn (Nat.lt_succ_iff.mp (Finset.mem_range.mp hk))
  simp only [neg_one_mul, neg_sub, duality_upper n k z p hn' hz.le hk0 hkn]

example : 1 - 1 / (1 + (2 : ℝ) ^ 2) ≤ ∑ k ∈ Finset.range (10 + 1),
      Binomial.pmf 10 k 0.3 * (if lowerR (10 : ℕ) k 2 ≤ 0.3 then 1 else 0) :=
  coverage_floor_lower_bound 10 (by norm_num) 2 0.3 (by norm_num) (by norm_num) (by norm_num)

/-- the floor is not vacuous: `n = 10`, `p = 0.3`, `z = 2` — at least 3/4 of the mass is covered -/
example : 1 - 1 / (2 : ℝ) ^ 2 ≤ ∑ k ∈ Finset.range (10 + 1),
      Binomial.pmf 10 k 0.3 * (if lowerR (10 : ℕ) k 2 ≤ 0.3 ∧ 0.3 ≤ upperR (10 : ℕ) k 2 then 1 else 0) :=
  coverage_floor 10 (by norm_num) 2 0.3 (by norm_num) (by norm_num) (by norm_num)

example : 1 - 1 / ((constCrit 2 : Crit Rex) (.z (Confidence.twoSided (⟨0.95⟩ : Rex)).quantile)).val ^ 2
      - Binomial.edgeMass 10 0.3
    ≤ ∑ k ∈ Finset.range (10 + 1),
      Binomial.pmf 10 k 0.3 * (if coversB (constCrit 2) (.twoSided ⟨0.95⟩) 10 k 0.3 = true then 1 else 0) :=
  coverage_floor_crate (constCrit 2) ⟨0.95⟩ 10 (by norm_num) 0.3 (by norm_num) (by norm_num)
    RR.validLevel_95 (by norm_num [constCrit])

end StatsCI.C12
