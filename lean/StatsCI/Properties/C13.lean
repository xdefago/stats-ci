/-
  C13 — For every member x of interval A (and y of B) and every scalar k, the values x+k, x-k, x*k,
  x/k, -x, x+y and x-y are members of A+k, A-k, A*k, A/k, -A, A+B and A-B respectively; every
  finite bound of a result is attained by some members; and the result is well-formed (lower bound
  <= upper bound, unbounded on exactly the side the true image is unbounded). relative_to of a
  non-negative interval against a strictly positive reference encloses (x-r)/r for all members x
  and r and attains its bounds.

  Stated over the model functions of `StatsCI.Model.Interval` themselves. Everything that does not
  divide is proved over an arbitrary ordered commutative ring (`NumOps.ofRing`: ℤ, ℚ, ℝ, …);
  `A / k`, the exact image of `A * k` and `relative_to` over an arbitrary ordered field
  (`NumOps.ofField`). Over a field the functions that do not divide are definitionally the same
  under both instances, so the ring theorems apply verbatim (`ring_theorems_over_field`).

  "Tightness" and "unbounded on exactly the side the true image is unbounded" are given in the
  strongest form: the set denoted by the result IS the image (`exact_image_*`). The exceptions, where
  the finite bounds are attained and no more is claimed: `A * k` with `k ≠ 0` over a ring that is
  not a field (`attained_scalar`), and `relative_to` unless both operands are two-sided
  (`relativeTo_exact_image_twoSided`, `relativeTo_attained`, `relativeTo_upper_ref_slack`).
  The documented panics of `A + B`, `A - B`, `relative_to` are the `none`s of the model; they are
  characterised exactly (`addI_panics`, `subI_panics`, `relativeTo_panics`).
-/
import StatsCI.Lemmas.IntervalAlg

namespace StatsCI.C13
open StatsCI StatsCI.Interval Set

section ring
variable {α : Type} [CommRing α] [LinearOrder α] [IsStrictOrderedRing α]
attribute [local instance] NumOps.ofRing

theorem sound_addScalar (A : Interval α) (k x : α) (hx : x ∈ A.den) :
    x + k ∈ (A.addScalar k).den :=
  mem_appliedBoth_of_mono A _ (mono_add_const k) hx

theorem sound_subScalar (A : Interval α) (k x : α) (hx : x ∈ A.den) :
    x - k ∈ (A.subScalar k).den :=
  mem_appliedBoth_of_mono A _ (mono_sub_const k) hx

theorem sound_mulScalar (A : Interval α) (k x : α) (hx : x ∈ A.den) :
    x * k ∈ (A.mulScalar k).den := by
  rcases lt_trichotomy k 0 with hk | rfl | hk
  · rw [mulScalar_of_neg A hk]
    exact mem_appliedFlipped_of_anti A _ (anti_mul_const hk.le) hx
  · rw [mulScalar_zero, mul_zero]
    exact ⟨le_rfl, le_rfl⟩
  · rw [mulScalar_of_pos A hk]
    exact mem_appliedBoth_of_mono A _ (mono_mul_const hk.le) hx

theorem sound_negI (A : Interval α) (x : α) (hx : x ∈ A.den) : -x ∈ A.negI.den :=
  mem_appliedFlipped_of_anti A _ anti_neg hx

theorem sound_addI (A B C : Interval α) (x y : α) (hx : x ∈ A.den) (hy : y ∈ B.den)
    (h : A.addI B = some C) : x + y ∈ C.den := by
  obtain ⟨hl, hr⟩ := addI_bounds h
  rw [mem_den_iff_bounds, hl, hr]
  simp only [Option.bind_eq_some_iff, Option.map_eq_some_iff]
  constructor
  · rintro _ ⟨a, ea, b, eb, rfl⟩
    exact add_le_add (left_le_of_mem ea hx) (left_le_of_mem eb hy)
  · rintro _ ⟨a, ea, b, eb, rfl⟩
    exact add_le_add (le_right_of_mem ea hx) (le_right_of_mem eb hy)

theorem sound_subI (A B C : Interval α) (x y : α) (hx : x ∈ A.den) (hy : y ∈ B.den)
    (h : A.subI B = some C) : x - y ∈ C.den := by
  rw [subI_eq_addI_negI] at h
  rw [sub_eq_add_neg]
  exact sound_addI A B.negI C x (-y) hx (sound_negI B y hy) h

theorem wf_addScalar (A : Interval α) (hA : A.WF) (k : α) : (A.addScalar k).WF :=
  WF_of_forall_mem hA (sound_addScalar A k)

theorem wf_subScalar (A : Interval α) (hA : A.WF) (k : α) : (A.subScalar k).WF :=
  WF_of_forall_mem hA (sound_subScalar A k)

theorem wf_mulScalar (A : Interval α) (hA : A.WF) (k : α) : (A.mulScalar k).WF :=
  WF_of_forall_mem hA (sound_mulScalar A k)

theorem wf_negI (A : Interval α) (hA : A.WF) : A.negI.WF :=
  WF_of_forall_mem hA (sound_negI A)

theorem wf_addI (A B C : Interval α) (hA : A.WF) (hB : B.WF) (h : A.addI B = some C) : C.WF :=
  let ⟨y, hy⟩ := den_nonempty hB
  WF_of_forall_mem hA fun x hx => sound_addI A B C x y hx hy h

theorem wf_subI (A B C : Interval α) (hA : A.WF) (hB : B.WF) (h : A.subI B = some C) : C.WF :=
  let ⟨y, hy⟩ := den_nonempty hB
  WF_of_forall_mem hA fun x hx => sound_subI A B C x y hx hy h

theorem kind_scalar (A : Interval α) (k : α) :
    ((A.addScalar k).isTwoSided = A.isTwoSided ∧ (A.addScalar k).isUpper = A.isUpper ∧
      (A.addScalar k).isLower = A.isLower) ∧
    ((A.subScalar k).isTwoSided = A.isTwoSided ∧ (A.subScalar k).isUpper = A.isUpper ∧
      (A.subScalar k).isLower = A.isLower) ∧
    (A.negI.isTwoSided = A.isTwoSided ∧ A.negI.isUpper = A.isLower ∧
      A.negI.isLower = A.isUpper) ∧
    (0 < k → (A.mulScalar k).isTwoSided = A.isTwoSided ∧ (A.mulScalar k).isUpper = A.isUpper ∧
      (A.mulScalar k).isLower = A.isLower) ∧
    (k < 0 → (A.mulScalar k).isTwoSided = A.isTwoSided ∧ (A.mulScalar k).isUpper = A.isLower ∧
      (A.mulScalar k).isLower = A.isUpper) ∧
    (k = 0 → (A.mulScalar k).isTwoSided = true) := by
  refine ⟨kind_appliedBoth A _, kind_appliedBoth A _, kind_appliedFlipped A _, ?_, ?_, ?_⟩
  · intro hk
    rw [mulScalar_of_pos A hk]
    exact kind_appliedBoth A _
  · intro hk
    rw [mulScalar_of_neg A hk]
    exact kind_appliedFlipped A _
  · rintro rfl
    rw [mulScalar_zero]
    rfl

theorem exact_image_addScalar (A : Interval α) (k : α) :
    (A.addScalar k).den = (· + k) '' A.den :=
  den_appliedBoth_of_mono A _ (· - k) (mono_add_const k) (mono_sub_const k)
    (fun x => sub_add_cancel x k) (fun x => add_sub_cancel_right x k)

theorem exact_image_subScalar (A : Interval α) (k : α) :
    (A.subScalar k).den = (· - k) '' A.den :=
  den_appliedBoth_of_mono A _ (· + k) (mono_sub_const k) (mono_add_const k)
    (fun x => add_sub_cancel_right x k) (fun x => sub_add_cancel x k)

theorem exact_image_negI (A : Interval α) : A.negI.den = (fun x => -x) '' A.den :=
  den_appliedFlipped_of_anti A _ (fun x => -x) anti_neg anti_neg neg_neg neg_neg

theorem exact_image_mulScalar_zero (A : Interval α) (hA : A.WF) :
    (A.mulScalar 0).den = {0} ∧ (· * (0 : α)) '' A.den = {0} := by
  constructor
  · rw [mulScalar_zero]
    exact Icc_self 0
  · simpa only [mul_zero] using (den_nonempty hA).image_const (0 : α)

theorem exact_image_addI (A B C : Interval α) (hA : A.WF) (hB : B.WF) (h : A.addI B = some C) :
    C.den = image2 (· + ·) A.den B.den := by
  refine Subset.antisymm (fun z hz => ?_)
    (image2_subset_iff.mpr fun p hp q hq => sound_addI A B C p q hp hq h)
  -- `z` is a sum as soon as some member `p` of `A` has `z - p` in `B`; below, `p` is a bound of `A`
  -- or `z` minus a bound of `B`, and in the two-sided case the larger of two such
  have key : ∀ p ∈ A.den, z - p ∈ B.den → z ∈ image2 (· + ·) A.den B.den :=
    fun p hp hq => ⟨p, hp, z - p, hq, add_sub_cancel p z⟩
  cases A <;> cases B <;> cases h
  case twoSided.twoSided a b x y =>
    have hp : max a (z - y) ≤ z - x :=
      max_le (le_sub_iff_add_le.mpr hz.1) (sub_le_sub_left hB z)
    exact key (max a (z - y)) ⟨le_max_left _ _, max_le hA (sub_le_iff_le_add.mpr hz.2)⟩
      ⟨le_sub_comm.mp hp, sub_le_comm.mp (le_max_right _ _)⟩
  case twoSided.upper a b x => exact key a ⟨le_rfl, hA⟩ (le_sub_iff_add_le'.mpr hz)
  case twoSided.lower a b y => exact key b ⟨hA, le_rfl⟩ (sub_le_iff_le_add'.mpr hz)
  case upper.twoSided a x y =>
    exact key (z - x) (le_sub_iff_add_le.mpr hz) ((sub_sub_cancel z x).symm ▸ ⟨le_rfl, hB⟩)
  case upper.upper a x => exact key a le_rfl (le_sub_iff_add_le'.mpr hz)
  case lower.twoSided b x y =>
    exact key (z - y) (sub_le_iff_le_add.mpr hz) ((sub_sub_cancel z y).symm ▸ ⟨hB, le_rfl⟩)
  case lower.lower b y => exact key b le_rfl (sub_le_iff_le_add'.mpr hz)

theorem exact_image_subI (A B C : Interval α) (hA : A.WF) (hB : B.WF) (h : A.subI B = some C) :
    C.den = image2 (· - ·) A.den B.den := by
  rw [subI_eq_addI_negI] at h
  rw [exact_image_addI A B.negI C hA (wf_negI B hB) h, exact_image_negI, image2_image_right]
  simp only [sub_eq_add_neg]

/-- For `A * k` this holds in every ordered ring, although over ℤ the image of `A * k` is not an
    interval (`[0, 1] * 2 = {0, 2}`): see `exact_image_mulScalar` for fields. -/
theorem attained_scalar (A : Interval α) (hA : A.WF) (k b : α) :
    ((A.addScalar k).left = some b ∨ (A.addScalar k).right = some b → ∃ x ∈ A.den, x + k = b) ∧
    ((A.subScalar k).left = some b ∨ (A.subScalar k).right = some b → ∃ x ∈ A.den, x - k = b) ∧
    ((A.mulScalar k).left = some b ∨ (A.mulScalar k).right = some b → ∃ x ∈ A.den, x * k = b) ∧
    (A.negI.left = some b ∨ A.negI.right = some b → ∃ x ∈ A.den, -x = b) := by
  refine ⟨bound_appliedBoth_attained hA _, bound_appliedBoth_attained hA _, fun h => ?_,
    bound_appliedFlipped_attained hA _⟩
  rcases lt_trichotomy k 0 with hk | rfl | hk
  · rw [mulScalar_of_neg A hk] at h
    exact bound_appliedFlipped_attained hA _ h
  · -- both bounds of `A * 0` are `0`, the product of any member
    obtain ⟨x, hx⟩ := den_nonempty hA
    rw [mulScalar_zero, left, right, or_self, Option.some.injEq] at h
    exact ⟨x, hx, (mul_zero x).trans h⟩
  · rw [mulScalar_of_pos A hk] at h
    exact bound_appliedBoth_attained hA _ h

theorem attained_addI_subI (A B C : Interval α) (hA : A.WF) (hB : B.WF) (b : α)
    (hb : C.left = some b ∨ C.right = some b) :
    (A.addI B = some C → ∃ x ∈ A.den, ∃ y ∈ B.den, x + y = b) ∧
    (A.subI B = some C → ∃ x ∈ A.den, ∃ y ∈ B.den, x - y = b) := by
  -- a bound of a well-formed result is a member of it, and the result is the image
  have hb' : C.WF → b ∈ C.den := fun hC => hb.elim (left_mem_den hC) (right_mem_den hC)
  constructor <;> intro h
  · exact mem_image2.mp (exact_image_addI A B C hA hB h ▸ hb' (wf_addI A B C hA hB h))
  · exact mem_image2.mp (exact_image_subI A B C hA hB h ▸ hb' (wf_subI A B C hA hB h))

theorem addI_panics (A B : Interval α) :
    A.addI B = none ↔
      (A.isUpper = true ∧ B.isLower = true) ∨ (A.isLower = true ∧ B.isUpper = true) := by
  cases A <;> cases B <;> simp [addI, isUpper, isLower]

theorem addI_panics_image (A B : Interval α) (h : A.addI B = none) :
    image2 (· + ·) A.den B.den = univ := by
  cases A <;> cases B <;> simp only [addI, reduceCtorEq] at h
  · exact image2_add_upper_lower _ _
  · exact (image2_comm fun p q => add_comm p q).trans (image2_add_upper_lower _ _)

theorem subI_panics (A B : Interval α) :
    A.subI B = none ↔
      (A.isUpper = true ∧ B.isUpper = true) ∨ (A.isLower = true ∧ B.isLower = true) := by
  obtain ⟨-, h1, h2⟩ := kind_appliedFlipped B fun x => -x
  rw [subI_eq_addI_negI, addI_panics, negI_eq, h1, h2]

theorem subI_panics_image (A B : Interval α) (h : A.subI B = none) :
    image2 (· - ·) A.den B.den = univ := by
  rw [subI_eq_addI_negI] at h
  have := addI_panics_image A B.negI h
  rw [exact_image_negI, image2_image_right] at this
  simpa only [sub_eq_add_neg] using this

theorem addI_subI_some_ne_univ (A B C : Interval α) (h : A.addI B = some C ∨ A.subI B = some C) :
    C.den ≠ univ := by
  -- no interval denotes the whole line: it has a bound, and the ring has elements beyond it
  intro hu
  have hw : ∀ w, w ∈ C.den := fun w => hu ▸ mem_univ w
  cases C with
  | twoSided lo hi => exact (exists_lt lo).elim fun w h => h.not_ge (hw w).1
  | upper lo => exact (exists_lt lo).elim fun w h => h.not_ge (hw w)
  | lower hi => exact (exists_gt hi).elim fun w h => h.not_ge (hw w)

end ring

section field
variable {α : Type} [Field α] [LinearOrder α] [IsStrictOrderedRing α]
attribute [local instance] NumOps.ofField

/-- the theorems of the ring section hold verbatim for the field instance, e.g. -/
theorem ring_theorems_over_field (A B C : Interval α) (k x y : α) (hx : x ∈ A.den)
    (hy : y ∈ B.den) :
    x + k ∈ (A.addScalar k).den ∧ x - k ∈ (A.subScalar k).den ∧ x * k ∈ (A.mulScalar k).den ∧
    -x ∈ A.negI.den ∧ (A.addI B = some C → x + y ∈ C.den) ∧ (A.subI B = some C → x - y ∈ C.den) := by
  rw [addScalar_ofField, subScalar_ofField, mulScalar_ofField, negI_ofField, addI_ofField,
    subI_ofField]
  exact ⟨sound_addScalar A k x hx, sound_subScalar A k x hx, sound_mulScalar A k x hx,
    sound_negI A x hx, sound_addI A B C x y hx hy, sound_subI A B C x y hx hy⟩

theorem exact_image_mulScalar (A : Interval α) (k : α) (hk : k ≠ 0) :
    (A.mulScalar k).den = (· * k) '' A.den := by
  rw [mulScalar_ofField]
  rcases lt_or_gt_of_ne hk with hk' | hk'
  · rw [mulScalar_of_neg A hk']
    exact den_appliedFlipped_of_anti A _ (· * k⁻¹) (anti_mul_const hk'.le)
      (anti_mul_const (inv_nonpos.mpr hk'.le)) (inv_mul_cancel_right₀ hk) (mul_inv_cancel_right₀ hk)
  · rw [mulScalar_of_pos A hk']
    exact den_appliedBoth_of_mono A _ (· * k⁻¹) (mono_mul_const hk'.le)
      (mono_mul_const (inv_nonneg.mpr hk'.le)) (inv_mul_cancel_right₀ hk) (mul_inv_cancel_right₀ hk)

theorem sound_divScalar (A : Interval α) (k x : α) (hk : k ≠ 0) (hx : x ∈ A.den) :
    x / k ∈ (A.divScalar k).den := by
  rw [divScalar_eq_mulScalar_inv A hk, div_eq_mul_inv, mulScalar_ofField]
  exact sound_mulScalar A k⁻¹ x hx

theorem exact_image_divScalar (A : Interval α) (k : α) (hk : k ≠ 0) :
    (A.divScalar k).den = (· / k) '' A.den := by
  rw [divScalar_eq_mulScalar_inv A hk, exact_image_mulScalar A k⁻¹ (inv_ne_zero hk)]
  simp only [div_eq_mul_inv]

theorem attained_divScalar (A : Interval α) (hA : A.WF) (k b : α) (hk : k ≠ 0)
    (hb : (A.divScalar k).left = some b ∨ (A.divScalar k).right = some b) :
    ∃ x ∈ A.den, x / k = b := by
  rw [divScalar_eq_mulScalar_inv A hk, mulScalar_ofField] at hb
  simpa only [div_eq_mul_inv] using (attained_scalar A hA k⁻¹ b).2.2.1 hb

theorem wf_divScalar (A : Interval α) (hA : A.WF) (k : α) (hk : k ≠ 0) : (A.divScalar k).WF :=
  WF_of_forall_mem hA fun x => sound_divScalar A k x hk

theorem kind_divScalar (A : Interval α) (k : α) :
    (0 < k → (A.divScalar k).isTwoSided = A.isTwoSided ∧ (A.divScalar k).isUpper = A.isUpper ∧
      (A.divScalar k).isLower = A.isLower) ∧
    (k < 0 → (A.divScalar k).isTwoSided = A.isTwoSided ∧ (A.divScalar k).isUpper = A.isLower ∧
      (A.divScalar k).isLower = A.isUpper) := by
  constructor
  · intro hk
    rw [divScalar_of_pos A hk]
    exact kind_appliedBoth A _
  · intro hk
    rw [divScalar_of_neg A hk]
    exact kind_appliedFlipped A _

theorem relativeTo_table (x y a b : α) (ha : a ≠ 0) (hb : b ≠ 0) :
    (Interval.twoSided x y).relativeTo (.twoSided a b) =
      some (.twoSided ((x - b) / b) ((y - a) / a)) ∧
    (Interval.twoSided x y).relativeTo (.upper a) = some (.lower ((y - a) / a)) ∧
    (Interval.upper x).relativeTo (.twoSided a b) = some (.upper ((x - b) / b)) ∧
    (Interval.upper x).relativeTo (.upper a) = none := by
  simp [relativeTo, ha, hb]

theorem relativeTo_sound (A R C : Interval α) (hA0 : ∀ x ∈ A.den, 0 ≤ x)
    (hR0 : ∀ r ∈ R.den, 0 < r) (h : A.relativeTo R = some C) (X r : α) (hX : X ∈ A.den)
    (hr : r ∈ R.den) : (X - r) / r ∈ C.den := by
  obtain ⟨hl, hh⟩ := relativeTo_bounds h
  rw [mem_den_iff_bounds, hl, hh]
  simp only [Option.bind_eq_some_iff, Option.map_eq_some_iff]
  constructor
  · rintro _ ⟨x, ex, b, eb, rfl⟩
    exact rel_le_rel (hA0 x (left_mem_den (WF_of_mem hX) ex)) (left_le_of_mem ex hX) (hR0 r hr)
      (le_right_of_mem eb hr)
  · rintro _ ⟨y, ey, a, ea, rfl⟩
    exact rel_le_rel (hA0 X hX) (le_right_of_mem ey hX) (hR0 a (left_mem_den (WF_of_mem hr) ea))
      (left_le_of_mem ea hr)

theorem relativeTo_attained (A R C : Interval α) (hA : A.WF) (hR : R.WF)
    (h : A.relativeTo R = some C) (β : α) (hβ : C.left = some β ∨ C.right = some β) :
    ∃ X ∈ A.den, ∃ r ∈ R.den, (X - r) / r = β := by
  obtain ⟨hl, hh⟩ := relativeTo_bounds h
  rw [hl, hh] at hβ
  simp only [Option.bind_eq_some_iff, Option.map_eq_some_iff] at hβ
  rcases hβ with ⟨x, ex, b, eb, rfl⟩ | ⟨y, ey, a, ea, rfl⟩
  · exact ⟨x, left_mem_den hA ex, b, right_mem_den hR eb, rfl⟩
  · exact ⟨y, right_mem_den hA ey, a, left_mem_den hR ea, rfl⟩

theorem relativeTo_wf (A R C : Interval α) (hA : A.WF) (hR : R.WF) (hA0 : ∀ x ∈ A.den, 0 ≤ x)
    (hR0 : ∀ r ∈ R.den, 0 < r) (h : A.relativeTo R = some C) : C.WF := by
  obtain ⟨r, hr⟩ := den_nonempty hR
  exact WF_of_forall_mem hA fun X hX => relativeTo_sound A R C hA0 hR0 h X r hX hr

theorem relativeTo_kind (A R : Interval α) (hR : R.WF) (hA0 : ∀ x ∈ A.den, 0 ≤ x)
    (hR0 : ∀ r ∈ R.den, 0 < r) :
    (A.isUpper = true ∧ R.isUpper = true → A.relativeTo R = none) ∧
    (¬(A.isUpper = true ∧ R.isUpper = true) → ∃ C, A.relativeTo R = some C ∧
      C.isUpper = A.isUpper ∧ C.isLower = R.isUpper ∧
      C.isTwoSided = (A.isTwoSided && R.isTwoSided)) := by
  have hAl := isLower_eq_false_of_forall_ge hA0
  have hRl := isLower_eq_false_of_forall_ge fun r hr => (hR0 r hr).le
  -- neither is unbounded below and the bounds of `R` are not zero: read off `relativeTo_table`
  cases R with
  | lower b => cases hRl
  | twoSided a b =>
    have T := fun x y => relativeTo_table x y a b (hR0 a ⟨le_rfl, hR⟩).ne' (hR0 b ⟨hR, le_rfl⟩).ne'
    cases A with
    | lower y => cases hAl
    | twoSided x y =>
      exact ⟨fun h => Bool.noConfusion h.2, fun _ => ⟨_, (T x y).1, rfl, rfl, rfl⟩⟩
    | upper x =>
      exact ⟨fun h => Bool.noConfusion h.2, fun _ => ⟨_, (T x x).2.2.1, rfl, rfl, rfl⟩⟩
  | upper a =>
    have T := fun x y => relativeTo_table x y a a (hR0 a (le_refl a)).ne' (hR0 a (le_refl a)).ne'
    cases A with
    | lower y => cases hAl
    | twoSided x y =>
      exact ⟨fun h => Bool.noConfusion h.1, fun _ => ⟨_, (T x y).2.1, rfl, rfl, rfl⟩⟩
    | upper x => exact ⟨fun _ => (T x x).2.2.2, fun h => absurd ⟨rfl, rfl⟩ h⟩

theorem relativeTo_panics (A R : Interval α) :
    A.relativeTo R = none ↔ R.left = some 0 ∨ R.right = some 0 ∨
      (A.isUpper = true ∧ R.isUpper = true) ∨ (A.isLower = true ∧ R.isLower = true) := by
  cases R <;> cases A <;>
    simp only [relativeTo, left, right, isUpper, isLower, cmp_eq_iff, ofField_zero,
      Bool.or_eq_true, Option.some.injEq, reduceCtorEq, Bool.false_eq_true, and_false, and_true,
      or_false, false_or, and_self, or_true, or_self, ite_eq_left_iff, ite_self, imp_false, not_not]

theorem relativeTo_zero_ref (A R : Interval α) (h : R.left = some 0 ∨ R.right = some 0) :
    A.relativeTo R = none :=
  (relativeTo_panics A R).mpr (h.elim Or.inl (fun h => Or.inr (Or.inl h)))

theorem relativeTo_exact_image_twoSided (x y a b : α) (hx : 0 ≤ x) (hxy : x ≤ y) (ha : 0 < a)
    (hab : a ≤ b) :
    ∃ C, (Interval.twoSided x y).relativeTo (.twoSided a b) = some C ∧
      C.den = image2 (fun X r => (X - r) / r) (Interval.twoSided x y).den
        (Interval.twoSided a b).den := by
  exact ⟨_, (relativeTo_table x y a b ha.ne' (lt_of_lt_of_le ha hab).ne').1,
    image2_rel_Icc hx hxy ha hab⟩

/-- against a reference that is unbounded above, the result `(-∞, (y - a)/a]` encloses and attains
    its finite bound, but is NOT tight on its unbounded side: every value `(X - r)/r` is at least
    `-1` (recorded; the property does not claim tightness there) -/
theorem relativeTo_upper_ref_slack (x y a : α) (hx : 0 ≤ x) (ha : 0 < a) :
    (Interval.twoSided x y).relativeTo (.upper a) = some (.lower ((y - a) / a)) ∧
    (∀ X ∈ (Interval.twoSided x y).den, ∀ r ∈ (Interval.upper a).den, -1 ≤ (X - r) / r) := by
  refine ⟨(relativeTo_table x y a a ha.ne' ha.ne').2.1, ?_⟩
  intro X hX r hr
  have hr0 : 0 < r := lt_of_lt_of_le ha hr
  rw [rel_eq X hr0.ne', le_sub_iff_add_le, neg_add_cancel]
  exact div_nonneg (hx.trans hX.1) hr0.le

end field

section examples

attribute [local instance] NumOps.ofRing in
example : (Interval.twoSided (1 : ℤ) 3).WF ∧ (2 : ℤ) ∈ (Interval.twoSided (1 : ℤ) 3).den ∧
    (Interval.twoSided (1 : ℤ) 3).mulScalar (-2) = .twoSided (-6) (-2) ∧
    (Interval.upper (1 : ℤ)).mulScalar (-2) = .lower (-2) ∧
    (Interval.upper (1 : ℤ)).mulScalar 0 = .twoSided 0 0 ∧
    (Interval.twoSided (1 : ℤ) 3).addI (.upper 5) = some (.upper 6) ∧
    (Interval.twoSided (1 : ℤ) 3).subI (.upper 5) = some (.lower (-2)) ∧
    (Interval.upper (1 : ℤ)).addI (.lower 5) = none ∧
    (Interval.upper (1 : ℤ)).subI (.upper 5) = none := by
  refine ⟨by simp, by simp, by decide, by decide, by decide, by decide, by decide, by decide,
    by decide⟩

attribute [local instance] NumOps.ofField in
example : (Interval.twoSided (1 : ℚ) 3).WF ∧ (Interval.twoSided (2 : ℚ) 4).WF ∧
    (∀ x ∈ (Interval.twoSided (1 : ℚ) 3).den, 0 ≤ x) ∧
    (∀ r ∈ (Interval.twoSided (2 : ℚ) 4).den, 0 < r) ∧
    (Interval.twoSided (1 : ℚ) 3).relativeTo (.twoSided 2 4) =
      some (.twoSided ((1 - 4) / 4) ((3 - 2) / 2)) ∧
    (Interval.twoSided (1 : ℚ) 3).relativeTo (.twoSided 0 4) = none ∧
    (Interval.twoSided (1 : ℚ) 3).divScalar (-2) = .twoSided (3 / (-2)) (1 / (-2)) := by
  refine ⟨by norm_num, by norm_num, ?_, ?_, ?_, ?_, ?_⟩
  · intro x hx; exact le_trans (by norm_num) hx.1
  · intro r hr; exact lt_of_lt_of_le (by norm_num) hr.1
  · exact (relativeTo_table 1 3 2 4 (by norm_num) (by norm_num)).1
  · simp [relativeTo]
  · simp [divScalar, appliedFlipped]

end examples
end StatsCI.C13
