/-
  C20 — serialized state round-trips losslessly (the modelled clause).

  The clause "the crate builds under each advertised feature combination" is a statement about
  the compiler and the manifest; it is decided by building (bin/check C20), not by a theorem.
-/
import StatsCI.Model.Serde

namespace StatsCI.C20
open StatsCI Serde

variable {α : Type}

/-- a `Confidence` survives serialize / deserialize unchanged -/
theorem roundtrip_confidence (c : Confidence α) : decConfidence (encConfidence c) = some c := by
  cases c <;> rfl

/-- an `Interval` survives serialize / deserialize unchanged -/
theorem roundtrip_interval (i : Interval α) : decInterval (encInterval i) = some i := by
  cases i <;> rfl

/-- a compensated-sum register survives with its compensation term -/
theorem roundtrip_kahan (k : Kahan α) : decKahan (encKahan k) = some k := by
  cases k; simp [encKahan, decKahan, field, List.find?]

/-- an `Arithmetic` state survives: both registers (sum and compensation each) and the count -/
theorem roundtrip_arith (a : Arith α) : decArith (encArith a) = some a := by
  obtain ⟨s, q, n⟩ := a
  simp [encArith, decArith, field, List.find?, roundtrip_kahan]

theorem roundtrip_harmonic (h : Harmonic α) : decHarmonic (encHarmonic h) = some h := by
  obtain ⟨a⟩ := h
  simp [encHarmonic, decHarmonic, field, List.find?, roundtrip_arith]

theorem roundtrip_geometric (g : Geometric α) : decGeometric (encGeometric g) = some g := by
  obtain ⟨a⟩ := g
  simp [encGeometric, decGeometric, field, List.find?, roundtrip_arith]

theorem roundtrip_paired (p : Paired α) : decPaired (encPaired p) = some p := by
  obtain ⟨a⟩ := p
  simp [encPaired, decPaired, field, List.find?, roundtrip_arith]

theorem roundtrip_unpaired (u : Unpaired α) : decUnpaired (encUnpaired u) = some u := by
  obtain ⟨a, b⟩ := u
  simp [encUnpaired, decUnpaired, field, List.find?, roundtrip_arith]

theorem roundtrip_propStats (s : Proportion.Stats) :
    decPropStats (encPropStats (α := α) s) = some s := by
  obtain ⟨n, k⟩ := s
  simp [encPropStats, decPropStats, field, List.find?]

/-- the deserializer does not depend on the order of the fields of a map -/
theorem decKahan_field_order (s c : α) :
    decKahan (.obj [("compensation", .num c), ("sum", .num s)]) = some ⟨s, c⟩ := by
  simp [decKahan, field, List.find?]

/-- encodings are injective: different states never serialize to the same tree (decode both
    sides) -/
theorem encArith_injective (a b : Arith α) (h : encArith a = encArith b) : a = b := by
  simpa [roundtrip_arith] using congrArg decArith h

theorem encInterval_injective (a b : Interval α) (h : encInterval a = encInterval b) : a = b := by
  simpa [roundtrip_interval] using congrArg decInterval h

theorem encConfidence_injective (a b : Confidence α) (h : encConfidence a = encConfidence b) : a = b := by
  simpa [roundtrip_confidence] using congrArg decConfidence h

section continue_
variable [Scalar α]

/-- the restored state continues identically: `f` is any function of the state, in particular every
    further history of appends, extends and merges (with any other state) started from it -/
theorem continue_arith (a a' : Arith α) (h : decArith (encArith a) = some a')
    (f : Arith α → Arith α) : f a' = f a := by
  rw [roundtrip_arith] at h
  cases h; rfl

/-- in particular statistics and intervals reported by the restored state are identical -/
theorem continue_arith_queries {W : Type} [Scalar W] [Widen α W] (a a' : Arith α)
    (h : decArith (encArith a) = some a') (crit : Crit W) (conf : Confidence W) (xs : List α) (b : Arith α) :
    (a'.extend xs).mean = (a.extend xs).mean ∧
    (a'.extend xs).variance = (a.extend xs).variance ∧
    ((a'.extend xs).merge b).ciMean crit conf = ((a.extend xs).merge b).ciMean crit conf := by
  rw [roundtrip_arith] at h
  cases h; exact ⟨rfl, rfl, rfl⟩

end continue_

/-! non-vacuity: a register with a non-zero compensation term round-trips, field for field -/
example : decKahan (encKahan (⟨3, 1⟩ : Kahan Nat)) = some ⟨3, 1⟩ := roundtrip_kahan _
example : encArith (⟨⟨3, 1⟩, ⟨9, 2⟩, 4⟩ : Arith Nat) =
    .obj [("sum", .obj [("sum", .num 3), ("compensation", .num 1)]),
          ("sum_sq", .obj [("sum", .num 9), ("compensation", .num 2)]), ("count", .nat 4)] := rfl

end StatsCI.C20
