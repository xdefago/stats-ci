/-
  C03 — The quantile confidence interval is made of order statistics of the sample, at the
  Wilson ranks of the proportion `round(q·n)/n`.

  All theorems are about the model functions of `StatsCI.Model.Quantile` themselves
  (`ciIndices`, `index`, `ciSortedUnchecked`, `sortData`, `ci`, `ciMaxSize`), run on exact real
  arithmetic `Rex`, for an arbitrary critical-value oracle `crit`. The running-`Stats` entry point
  `Stats::ci(confidence, quantile)` *is* `ciIndices` in the model (see the model's doc comment), so
  it needs no separate statement.

  Vocabulary (`StatsCI.QSpec`, in `Lemmas/Quantile.lean`; `zOf`, `ValidLevel`, `ValidQuantile` in
  `Lemmas/RR.lean`):
  * `successes q n = (round (q·n)).toNat` — the success count `k`;
  * `zOf crit conf = (crit (.z conf.quantile)).val` — the critical value `z`;
  * `centre n k z = (k + z²/2)/(n + z²)`, `span n k z = z/(n + z²)·√(k(n−k)/n + z²/4)`,
    `pLow = centre − span`, `pHigh = centre + span` — the Wilson numbers;
  * `rank n p = min ⌊p·n⌋₊ (n − 1)`;
  * `ValidLevel conf`: `0 < level < 1`;  `ValidQuantile q`: `0 < q < 1`;
  * `Quantile.sorted xs = xs.mergeSort (· ≤ ·)` (in `Lemmas/Sorted.lean`).
-/
import StatsCI.Lemmas.Quantile
import StatsCI.Lemmas.Sorted

namespace StatsCI.C03
open StatsCI Quantile QSpec

section indices
variable (crit : Crit Rex) (conf : Confidence Rex) (n : ℕ) (q : Rex)

/-! ## 1. domain -/

/-- the success count never exceeds the population when `q < 1`
    (so the `InvalidSuccesses` arm of `ci_wilson` is unreachable from `ci_indices`) -/
theorem successes_le (hq : q.val < 1) : successes q.val n ≤ n := QSpec.successes_le q.val n hq

/-- **Domain.** The outcome of `ci_indices` is decided by a cascade of tests, each outcome being
    returned *iff* its test is the first to fire:
    `InvalidQuantile q` iff `q ∉ (0,1)`; else `TooFewSamples n` iff `n < 4`; else
    `TooFewSuccesses` iff `k < 2`; else `TooFewFailures` iff `n − k < 2`; else — the only
    remaining failure — `Interval(InvalidBounds)` iff the confidence is two-sided and the
    critical value is negative; else `Ok`. The six right-hand sides are exhaustive and mutually
    exclusive. -/
theorem domain (hl : ValidLevel conf) :
    (ciIndices crit conf n q = .err (.invalidQuantile q) ↔ ¬ ValidQuantile q) ∧
    (ciIndices crit conf n q = .err (.tooFewSamples n) ↔ ValidQuantile q ∧ n < 4) ∧
    (ciIndices crit conf n q =
        .err (.tooFewSuccesses (successes q.val n) n (inj (successes q.val n : ℝ))) ↔
      ValidQuantile q ∧ 4 ≤ n ∧ successes q.val n < 2) ∧
    (ciIndices crit conf n q =
        .err (.tooFewFailures (n - successes q.val n) n
          (inj ((n : ℝ) - (successes q.val n : ℝ)))) ↔
      ValidQuantile q ∧ 4 ≤ n ∧ 2 ≤ successes q.val n ∧ n - successes q.val n < 2) ∧
    (ciIndices crit conf n q = .err (.interval .invalidBounds) ↔
      ValidQuantile q ∧ 4 ≤ n ∧ 2 ≤ successes q.val n ∧ 2 ≤ n - successes q.val n ∧
        conf.isTwoSided = true ∧ zOf crit conf < 0) ∧
    ((ciIndices crit conf n q).isOk = true ↔
      ValidQuantile q ∧ 4 ≤ n ∧ 2 ≤ successes q.val n ∧ 2 ≤ n - successes q.val n ∧
        (conf.isTwoSided = true → 0 ≤ zOf crit conf)) := by
  -- a decision list with pairwise distinct verdicts: `ite_eq_iff` unfolds it, and two distinct
  -- constructors are never equal
  rw [ciIndices_eq crit conf n q hl]
  simp only [apply_ite Outcome.isOk, Outcome.isOk_err, Outcome.isOk_ok, ite_eq_iff,
    Outcome.err.injEq, reduceCtorEq, and_false, or_false, false_or, and_true, not_not, not_lt,
    Bool.false_eq_true, true_and]
  rw [not_and, not_lt]

theorem never_panic (hl : ValidLevel conf) (t : String) : ciIndices crit conf n q ≠ .panic t := by
  rw [ciIndices_eq crit conf n q hl, ne_eq]
  simp only [ite_eq_iff, reduceCtorEq, and_false, or_false, not_false_eq_true]

/-- the errors `ci_indices` can return are the five of `domain` — in particular never
    `IndexError` (the exact Wilson bounds lie in `[0,1]`; the clamp of `ci_wilson` is inert) and
    never `InvalidSuccesses` (`k ≤ n`) -/
theorem error_cases (hl : ValidLevel conf) (e : Err Rex)
    (h : ciIndices crit conf n q = .err e) :
    e = .invalidQuantile q ∨ e = .tooFewSamples n ∨
    e = .tooFewSuccesses (successes q.val n) n (inj (successes q.val n : ℝ)) ∨
    e = .tooFewFailures (n - successes q.val n) n (inj ((n : ℝ) - (successes q.val n : ℝ))) ∨
    e = .interval .invalidBounds := by
  rw [ciIndices_eq crit conf n q hl] at h
  simp only [ite_eq_iff, Outcome.err.injEq, reduceCtorEq, and_false, or_false] at h
  obtain ⟨-, h⟩ | ⟨-, ⟨-, h⟩ | ⟨-, ⟨-, h⟩ | ⟨-, ⟨-, h⟩ | ⟨-, -, h⟩⟩⟩⟩ := h <;>
    simp only [← h, true_or, or_true]

theorem never_indexError (hl : ValidLevel conf) (x : Rex) (m : ℕ) :
    ciIndices crit conf n q ≠ .err (.indexError x m) :=
  RankRound.ciIndices_ne_indexError crit conf n q x m

/-! ## 2. the ranks -/

/-- **Ranks.** On the accepted domain the result is, according to the kind of confidence,
    `[lo, hi]`, `[lo, →)` or `(←, hi]` with `lo = min ⌊pLow·n⌋ (n−1)`, `hi = min ⌊pHigh·n⌋ (n−1)`,
    `pLow`/`pHigh` the Wilson numbers `centre ∓ span` of `k = round(q·n)` successes out of `n`
    (a negative critical value makes the two-sided Wilson interval inverted, which
    `Interval::new` rejects). One-sided confidence yields only the corresponding single bound. -/
theorem ranks (hl : ValidLevel conf) (hq : ValidQuantile q) (hn : 4 ≤ n)
    (hk : 2 ≤ successes q.val n) (hf : 2 ≤ n - successes q.val n) :
    ciIndices crit conf n q =
      match (generalizing := false) conf with
      | .twoSided _ =>
          if zOf crit conf < 0 then .err (.interval .invalidBounds)
          else .ok (.twoSided (rank n (pLow n (successes q.val n) (zOf crit conf)))
                              (rank n (pHigh n (successes q.val n) (zOf crit conf))))
      | .upper _ => .ok (.upper (rank n (pLow n (successes q.val n) (zOf crit conf))))
      | .lower _ => .ok (.lower (rank n (pHigh n (successes q.val n) (zOf crit conf)))) := by
  rw [ciIndices_of_domain crit conf n q hl hq hn hk hf]
  cases conf <;> simp [shapeOf, Confidence.isTwoSided]

/-- the ranks are what the model's `Stats::index` returns on the bounds of the model's
    `ci_wilson(confidence, n, round(q·n))`; the far end of a one-sided Wilson interval is `1`
    (upper) resp. `0` (lower), whose ranks `n − 1` resp. `0` are computed but not reported -/
theorem ranks_via_wilson (hl : ValidLevel conf) (hq : ValidQuantile q) (hn : 4 ≤ n)
    (hk : 2 ≤ successes q.val n) (hf : 2 ≤ n - successes q.val n)
    (hz : conf.isTwoSided = true → 0 ≤ zOf crit conf) :
    ∃ pl pu : Rex, ∃ lo hi : ℕ,
      Proportion.ciWilson crit conf n (successes q.val n) = .ok (.twoSided pl pu) ∧
      Quantile.index n pl = .ok lo ∧ Quantile.index n pu = .ok hi ∧
      pl.val = (match conf with | .lower _ => 0 | _ => pLow n (successes q.val n) (zOf crit conf)) ∧
      pu.val = (match conf with | .upper _ => 1 | _ => pHigh n (successes q.val n) (zOf crit conf)) ∧
      ciIndices crit conf n q =
        .ok (match conf with
             | .twoSided _ => .twoSided lo hi
             | .upper _ => .upper lo
             | .lower _ => .lower hi) := by
  have hn0 : n ≠ 0 := by omega
  have hkn : successes q.val n ≤ n := QSpec.successes_le q.val n hq.2
  obtain ⟨b1, b2, b3, b4⟩ := Wilson.bounds_unit n (successes q.val n) (by omega) hkn (zOf crit conf)
  have hnz : ¬(conf.isTwoSided = true ∧ zOf crit conf < 0) := fun h => not_lt.mpr (hz h.1) h.2
  have hW := Wilson.ciWilson_rex crit conf n _ hk (by omega) (probOk_of_validLevel hl)
  have hI := ciIndices_of_domain crit conf n q hl hq hn hk hf
  rw [if_neg hnz] at hW hI
  cases conf with
  | twoSided l =>
    exact ⟨_, _, _, _, hW, RankRound.index_fl_ok n _ hn0 b1 b2, RankRound.index_fl_ok n _ hn0 b3 b4,
      rfl, rfl, hI⟩
  | upper l =>
    exact ⟨_, _, _, _, hW, RankRound.index_fl_ok n _ hn0 b1 b2,
      RankRound.index_fl_ok n _ hn0 zero_le_one le_rfl, rfl, rfl, hI⟩
  | lower l =>
    exact ⟨_, _, _, _, hW, RankRound.index_fl_ok n _ hn0 le_rfl zero_le_one,
      RankRound.index_fl_ok n _ hn0 b3 b4, rfl, rfl, hI⟩

/-- `Stats::index`: `min ⌊p·n⌋ (n−1)` for `p ∈ [0,1]` and a non-empty population, `TooFewSamples`
    for an empty one, `InvalidQuantile` outside `[0,1]` -/
theorem index_spec (p : Rex) :
    Quantile.index n p =
      if n = 0 then .err (.tooFewSamples n)
      else if p.val < 0 ∨ 1 < p.val then .err (.invalidQuantile p)
      else .ok (rank n p.val) :=
  RankRound.index_fl n p

/-- **Kinds.** The result has the kind of the confidence: two-sided confidence gives both
    ranks, upper one-sided only the lower rank `[lo, →)`, lower one-sided only the upper rank -/
theorem kinds (hl : ValidLevel conf) (idx : Interval ℕ)
    (h : ciIndices crit conf n q = .ok idx) :
    idx.isTwoSided = conf.isTwoSided ∧ idx.isUpper = conf.isUpper ∧
      idx.isLower = conf.isLower := by
  -- on any carrier: the last step of `ci_indices` is the constructor of the kind
  obtain ⟨-, -, -, -, -, -, lo, -, hi, -, -, rfl⟩ := ciIndices_eq_ok_iff.mp h
  cases conf <;> exact ⟨rfl, rfl, rfl⟩

/-! ## 3. in range, ordered -/

/-- **In range.** Every reported rank is a valid 0-based index into the sample (`≤ n − 1`) -/
theorem ranks_in_range (hl : ValidLevel conf) (idx : Interval ℕ)
    (h : ciIndices crit conf n q = .ok idx) :
    4 ≤ n ∧
    match idx with
    | .twoSided lo hi => lo ≤ n - 1 ∧ hi ≤ n - 1
    | .upper lo => lo ≤ n - 1
    | .lower hi => hi ≤ n - 1 := by
  obtain ⟨-, hn, -, -, -, rfl⟩ := (ciIndices_ok_iff crit conf n q hl idx).mp h
  refine ⟨hn, ?_⟩
  cases conf with
  | twoSided l => exact ⟨rank_le _ _, rank_le _ _⟩
  | upper l => exact rank_le _ _
  | lower l => exact rank_le _ _

/-- **Ordered.** `lo ≤ hi` -/
theorem ordered (hl : ValidLevel conf) (lo hi : ℕ)
    (h : ciIndices crit conf n q = .ok (.twoSided lo hi)) : lo ≤ hi := by
  -- on any carrier: `Interval::new` accepted the two ranks
  cases conf with
  | twoSided l => exact (ciIndices_eq_ok h).2.2.1
  | upper l => exact (ciIndices_eq_ok h).2.2.elim
  | lower l => exact (ciIndices_eq_ok h).2.2.elim

/-! ## 4. bracketing -/

/-- **Bracket.** For a non-negative critical value (every two-sided level, one-sided levels
    `≥ ½`) the reported ranks enclose the rank `k = round(q·n)` of the sample quantile:
    `lo ≤ k ≤ hi`, with `k` itself in range (`2 ≤ k ≤ n − 2`); and as soon as `z > 0` the lower
    rank is strictly below: `lo ≤ k − 1`. (`hi = k` does occur for `z > 0`: the interval may
    be the two adjacent order statistics `k − 1`, `k` — "to within one position".) -/
theorem bracket (hl : ValidLevel conf) (idx : Interval ℕ)
    (h : ciIndices crit conf n q = .ok idx) (hz : 0 ≤ zOf crit conf) :
    2 ≤ successes q.val n ∧ successes q.val n ≤ n - 2 ∧
    match idx with
    | .twoSided lo hi =>
        lo ≤ successes q.val n ∧ successes q.val n ≤ hi ∧
          (0 < zOf crit conf → lo ≤ successes q.val n - 1)
    | .upper lo => lo ≤ successes q.val n ∧ (0 < zOf crit conf → lo ≤ successes q.val n - 1)
    | .lower hi => successes q.val n ≤ hi := by
  obtain ⟨hq, hn, hk, hf, -, rfl⟩ := (ciIndices_ok_iff crit conf n q hl idx).mp h
  have hn0 : 0 < n := by omega
  have hkn : successes q.val n ≤ n := by omega
  have henc := encloses n (successes q.val n) (zOf crit conf) hn0 hkn hz
  have hn' : (0 : ℝ) < n := Nat.cast_pos.mpr hn0
  have hlo : rank n (pLow n (successes q.val n) (zOf crit conf)) ≤ successes q.val n :=
    rank_le_of_le n _ _ ((le_div_iff₀ hn').mp henc.1)
  have hhi : successes q.val n ≤ rank n (pHigh n (successes q.val n) (zOf crit conf)) :=
    le_rank_of_le n _ _ (by omega) ((div_le_iff₀ hn').mp henc.2)
  have hlo' : 0 < zOf crit conf →
      rank n (pLow n (successes q.val n) (zOf crit conf)) ≤ successes q.val n - 1 := fun hz' =>
    Nat.le_sub_one_of_lt (rank_lt_of_lt n _ _ (by omega) ((lt_div_iff₀ hn').mp
      (encloses_strict n (successes q.val n) (zOf crit conf) hn0 (by omega) (by omega) hz').1))
  refine ⟨hk, by omega, ?_⟩
  cases conf with
  | twoSided l => exact ⟨hlo, hhi, hlo'⟩
  | upper l => exact ⟨hlo, hlo'⟩
  | lower l => exact hhi

end indices

/-! ## 5.–7. the data entry points, over any linear order -/

section data
variable {T : Type} [LinearOrder T]
attribute [local instance] Cmp.ofLinearOrder
variable (crit : Crit Rex) (conf : Confidence Rex) (q : Rex)

/-- over a linear order the sort inside `ci` never panics and is the merge sort by `≤` -/
theorem sort_never_panics (xs : List T) :
    (Quantile.sortData xs : Outcome (Err Rex) (List T)) = .ok (sorted xs) := sortData_eq xs

theorem sorted_spec (xs : List T) :
    (sorted xs).Perm xs ∧ (sorted xs).Pairwise (· ≤ ·) ∧ (sorted xs).length = xs.length :=
  ⟨sorted_perm xs, sorted_pairwise xs, sorted_length xs⟩

/-- **Elements.** `ci` returns exactly what the index-only entry point says, looked up in the
    sorted sample: on `Ok` ranks the bounds are the order statistics `sorted[lo]`, `sorted[hi]`
    (the look-ups are in range, `Interval::new` never rejects them since
    `sorted[lo] ≤ sorted[hi]`), and they are elements of the sample; every error of
    `ci_indices` is passed through unchanged; there is no panic. -/
theorem elements (hl : ValidLevel conf) (xs : List T) :
    match ciIndices crit conf xs.length q with
    | .ok (.twoSided lo hi) =>
        ∃ (h1 : lo < (sorted xs).length) (h2 : hi < (sorted xs).length),
          Quantile.ci crit conf xs q = .ok (.twoSided (sorted xs)[lo] (sorted xs)[hi]) ∧
          (sorted xs)[lo] ≤ (sorted xs)[hi] ∧ (sorted xs)[lo] ∈ xs ∧ (sorted xs)[hi] ∈ xs
    | .ok (.upper lo) =>
        ∃ (h1 : lo < (sorted xs).length),
          Quantile.ci crit conf xs q = .ok (.upper (sorted xs)[lo]) ∧ (sorted xs)[lo] ∈ xs
    | .ok (.lower hi) =>
        ∃ (h2 : hi < (sorted xs).length),
          Quantile.ci crit conf xs q = .ok (.lower (sorted xs)[hi]) ∧ (sorted xs)[hi] ∈ xs
    | .err e => Quantile.ci crit conf xs q = .err e
    | .panic _ => False := by
  cases hr : ciIndices crit conf xs.length q with
  | ok idx =>
    obtain ⟨lo, hi, h1, h2, rfl, hle, hci⟩ := ci_of_indices_ok crit conf xs q hr
    have m1 := (mem_sorted xs _).mp (List.getElem_mem h1)
    have m2 := (mem_sorted xs _).mp (List.getElem_mem h2)
    cases conf with
    | twoSided l => exact ⟨h1, h2, hci, sorted_getElem_le xs (hle rfl) h2, m1, m2⟩
    | upper l => exact ⟨h1, hci, m1⟩
    | lower l => exact ⟨h2, hci, m2⟩
  | err e => rw [ci_eq_bind, hr]; rfl
  | panic t => exact never_panic crit conf xs.length q hl t hr

/-- the bounds of a successful `ci` are elements of the sample, in order -/
theorem bounds_mem (hl : ValidLevel conf) (xs : List T) (iv : Interval T)
    (h : Quantile.ci crit conf xs q = .ok iv) :
    match iv with
    | .twoSided a b => a ∈ xs ∧ b ∈ xs ∧ a ≤ b
    | .upper a => a ∈ xs
    | .lower b => b ∈ xs := by
  -- on any carrier and for any confidence
  cases iv <;> exact ci_ok_mem h

/-- **Order independence.** The result does not depend on the order in which the data are
    supplied -/
theorem perm_invariant (xs ys : List T) (h : xs.Perm ys) :
    Quantile.ci crit conf xs q = Quantile.ci crit conf ys q := by
  rw [ci_eq_sorted, ci_eq_sorted, sorted_eq_of_perm h]

/-- **Entry points agree (pre-sorted).** `ci` is `ci_sorted_unchecked` on the sorted data -/
theorem ci_eq_ciSortedUnchecked (xs : List T) :
    Quantile.ci crit conf xs q = Quantile.ciSortedUnchecked crit conf (sorted xs) q :=
  ci_eq_sorted crit conf xs q

theorem ci_eq_ciSortedUnchecked_of_sorted (xs : List T) (hs : xs.Pairwise (· ≤ ·)) :
    Quantile.ci crit conf xs q = Quantile.ciSortedUnchecked crit conf xs q := by
  rw [ci_eq_sorted, sorted_eq_of_sorted_perm (List.Perm.refl xs) hs]

/-- **Entry points agree (fixed capacity).** `ci_max_size::<CAP>` is `ci` when the data fit and
    the documented capacity panic otherwise -/
theorem ciMaxSize_eq (cap : ℕ) (xs : List T) :
    Quantile.ciMaxSize cap crit conf xs q =
      if xs.length ≤ cap then Quantile.ci crit conf xs q else .panic "capacity" := by
  unfold Quantile.ciMaxSize
  by_cases h : xs.length ≤ cap
  · rw [if_neg (by omega), if_pos h]
  · rw [if_pos (by omega), if_neg h]

/-- **Entry points agree (index-only).** In one equation: the outcome of `ci`, its bounds
    wrapped in `some`, is the outcome of `ci_indices` on the sample size with every rank looked up
    in the sorted sample. Hence `ci` succeeds exactly when `ci_indices` does, with an interval of
    the same kind whose bounds are the sorted elements at those ranks, and the errors coincide. -/
theorem ci_eq_indices_lookup (xs : List T) :
    (Quantile.ci crit conf xs q).map (Interval.map some) =
      (ciIndices crit conf xs.length q).map (Interval.map fun i => (sorted xs)[i]?) :=
  Quantile.ci_eq_indices_lookup crit conf xs q

/-- **Entry points agree.** The four ways into the computation — `ci` (unsorted data),
    `ci_sorted_unchecked` (pre-sorted), `ci_max_size::<CAP>` (fixed capacity) and the index-only
    `ci_indices` / `Stats::ci` — produce the same outcome. -/
theorem entry_points_agree (hl : ValidLevel conf) (cap : ℕ) (xs : List T) :
    Quantile.ci crit conf xs q = Quantile.ciSortedUnchecked crit conf (sorted xs) q ∧
    (xs.length ≤ cap → Quantile.ciMaxSize cap crit conf xs q = Quantile.ci crit conf xs q) ∧
    (cap < xs.length → Quantile.ciMaxSize cap crit conf xs q = .panic "capacity") ∧
    (Quantile.ci crit conf xs q).map (Interval.map some) =
      (ciIndices crit conf xs.length q).map (Interval.map fun i => (sorted xs)[i]?) := by
  refine ⟨ci_eq_sorted crit conf xs q, ?_, ?_, ci_eq_indices_lookup crit conf q xs⟩
  · intro h; rw [ciMaxSize_eq, if_pos h]
  · intro h; rw [ciMaxSize_eq, if_neg (by omega)]

theorem ci_isOk_iff (hl : ValidLevel conf) (xs : List T) :
    (Quantile.ci crit conf xs q).isOk = (ciIndices crit conf xs.length q).isOk := by
  rw [← Outcome.isOk_map (Interval.map some), ci_eq_indices_lookup crit conf q xs,
    Outcome.isOk_map]

theorem ci_err_iff (hl : ValidLevel conf) (xs : List T) (e : Err Rex) :
    Quantile.ci crit conf xs q = .err e ↔ ciIndices crit conf xs.length q = .err e := by
  rw [← Outcome.map_eq_err_iff (f := Interval.map some), ci_eq_indices_lookup crit conf q xs,
    Outcome.map_eq_err_iff]

theorem ci_never_panics (hl : ValidLevel conf) (xs : List T) (t : String) :
    Quantile.ci crit conf xs q ≠ .panic t := by
  rw [ne_eq, ← Outcome.map_eq_panic_iff (f := Interval.map some),
    ci_eq_indices_lookup crit conf q xs, Outcome.map_eq_panic_iff]
  exact never_panic crit conf xs.length q hl t

/-- one-sided confidence yields only the corresponding single bound, also through `ci` -/
theorem ci_kinds (hl : ValidLevel conf) (xs : List T) (iv : Interval T)
    (h : Quantile.ci crit conf xs q = .ok iv) :
    iv.isTwoSided = conf.isTwoSided ∧ iv.isUpper = conf.isUpper ∧ iv.isLower = conf.isLower := by
  obtain ⟨idx, hr, -⟩ := Outcome.bind_eq_ok_iff.mp ((ci_eq_bind crit conf xs q).symm.trans h)
  obtain ⟨lo, hi, h1, h2, -, -, hci⟩ := ci_of_indices_ok crit conf xs q hr
  cases hci.symm.trans h
  cases conf <;> exact ⟨rfl, rfl, rfl⟩

end data

/-! ## non-vacuity: a concrete instance meets every hypothesis used above

  `crit` constantly 2, two-sided level 0.9, `n = 10`, `q = ½`: `k = round 5 = 5`, `n − k = 5`,
  `z = 2 > 0`; `ci_indices` succeeds, so does `ci` on the sample `0,…,9` supplied in any order. -/

section nonvacuity
attribute [local instance] Cmp.ofLinearOrder

example : ValidLevel (.twoSided (inj (9 / 10))) ∧ ValidQuantile (inj (1 / 2)) ∧ 4 ≤ (10 : ℕ) ∧
    2 ≤ successes (inj (1 / 2) : Rex).val 10 ∧ 2 ≤ 10 - successes (inj (1 / 2) : Rex).val 10 ∧
    0 < zOf (constCrit 2) (.twoSided (inj (9 / 10))) ∧
    (ciIndices (constCrit 2 : Crit Rex) (.twoSided (inj (9 / 10))) 10 (inj (1 / 2))).isOk = true ∧
    (Quantile.ci (constCrit 2 : Crit Rex) (.twoSided (inj (9 / 10))) [3, 1, 4, 0, 5, 9, 2, 6, 8, (7 : ℤ)]
      (inj (1 / 2))).isOk = true := by
  have hl := validLevel_example
  have hz : zOf (constCrit 2) (.twoSided (inj (9 / 10))) = 2 := rfl
  have hok := congrArg Outcome.isOk ciIndices_10_half_two
  refine ⟨hl, validQuantile_half, by decide, successes_half_ten_bounds.1,
    successes_half_ten_bounds.2, by rw [hz]; exact two_pos, hok, ?_⟩
  rw [ci_isOk_iff _ _ _ hl]
  exact hok

/-- the same instance, computed: ranks 2 and 7, i.e. the interval `[2, 7]` of the sample `0,…,9` -/
example :
    ciIndices (constCrit 2 : Crit Rex) (.twoSided (inj (9 / 10))) 10 (inj (1 / 2)) =
      .ok (.twoSided 2 7) := ciIndices_10_half_two

/-- tightness of `bracket`: with a small positive critical value (`z = 1/10`) the upper rank is
    `k = 5` itself and the lower rank is `k − 1 = 4`: the two adjacent order statistics -/
example :
    ciIndices (constCrit (1 / 10) : Crit Rex) (.twoSided (inj (9 / 10))) 10 (inj (1 / 2)) =
      .ok (.twoSided 4 5) := by
  rw [ciIndices_10_half, if_neg (by norm_num), ranks_10_5_tenth.1, ranks_10_5_tenth.2]

/-- a negative critical value is rejected for two-sided confidence (the Wilson interval is inverted) -/
example :
    ciIndices (constCrit (-2) : Crit Rex) (.twoSided (inj (9 / 10))) 10 (inj (1 / 2)) =
      .err (.interval .invalidBounds) := by
  rw [ciIndices_10_half, if_pos (by norm_num)]

end nonvacuity

end StatsCI.C03
