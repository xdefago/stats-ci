/-
  C01R — Forward rounding-error bounds for the one-sample mean interval.

  The same model functions (`Arith.fromList`, `Arith.mean`, `Arith.variance`, `Arith.stdDev`,
  `Arith.ci`) are run at the carrier `RR fl` (ℝ with a rounding function `fl` applied after every
  operation) and at `Rex = RR id` (exact arithmetic), on the same real data `xs`, and the results
  are compared.  Hypotheses on `(fl, u, xs)`, the same in every theorem:

  * `hfl  : ∀ x, |fl x − x| ≤ u·|x|`, `hu : 0 ≤ u` — relative rounding error at most `u`;
  * `hn   : 2 ≤ n` (`n = xs.length`), `hs : n·u ≤ 1/1024` — enough data, `u` small;
  * `hnat : ∀ m ≤ n, fl m = m` — the counts `n`, `n − 1` are exactly representable.

  Not modelled (as everywhere at `RR fl`): overflow, NaN, gradual underflow.

  Constants: `Σ`-register `11u`, `Σ²`-register `13u` (from C08 `sequential`: `10u + 9(n+2)u²`
  and `n·u ≤ 1/1024`), mean `13`, variance `44`, standard deviation `46` (relative form) / `49`
  (square-root form), interval `15`, `1 + 8u`, `7`; `κ`-form `47`.  They are not tight.

  The variance bound is in units of `u·Σx²/(n − 1)`, not of `u·s²`: the one-pass formula
  `(Σx² − x̄·Σx)/(n − 1)` the crate uses loses accuracy like `κ = Σx²/((n − 1)s²)`.
-/
import StatsCI.Lemmas.MeanRound

namespace StatsCI.C01R
open StatsCI StatsCI.MeanLemmas StatsCI.MeanRound NumOps Scalar

variable {fl : ℝ → ℝ} {u : ℝ}

/-- the two Kahan registers after `from_iter(xs)` at `RR fl`: `|sum.value() − Σx| ≤ 11u·Σ|x|` and
    `|sum_sq.value() − Σx²| ≤ 13u·Σx²` (the squares are themselves rounded) -/
theorem registers_error (hfl : ∀ x, |fl x - x| ≤ u * |x|) (hu : 0 ≤ u) (xs : List ℝ)
    (hn : 2 ≤ xs.length) (hs : (xs.length : ℝ) * u ≤ 1 / 1024) :
    |(Arith.fromList (xs.map inj) : Arith (RR fl)).sum.value.val - xs.sum| ≤
      11 * u * (xs.map abs).sum ∧
    |(Arith.fromList (xs.map inj) : Arith (RR fl)).sumSq.value.val - (xs.map (fun x => x * x)).sum| ≤
      13 * u * (xs.map (fun x => x * x)).sum :=
  ⟨sum_value_bound hfl hu xs hn hs, sumSq_value_bound hfl hu xs hn hs⟩

/-- **Mean.** `|mean_fl − mean_exact| ≤ 13·u·Σ|x|/n`; `mean_exact = Σx/n` (C01 `mean_exact`). -/
theorem mean_error (hfl : ∀ x, |fl x - x| ≤ u * |x|) (hu : 0 ≤ u) (xs : List ℝ)
    (hn : 2 ≤ xs.length) (hs : (xs.length : ℝ) * u ≤ 1 / 1024)
    (hnat : ∀ m : ℕ, m ≤ xs.length → fl m = m) :
    |(Arith.fromList (xs.map inj) : Arith (RR fl)).mean.val
        - (Arith.fromList (xs.map inj) : Arith Rex).mean.val| ≤
      13 * u * ((xs.map abs).sum / xs.length) := by
  rw [Arith.fromList_mean]
  exact mean_bound hfl hu xs hn hs hnat

/-- **Variance.** `|variance_fl − variance_exact| ≤ 44·u·Σx²/(n − 1)`, for the clamped value
    `sample_variance()` returns; `variance_exact = Σ(x − x̄)²/(n − 1)` (C01 `variance_exact`).
    The clamp at zero is handled inside: the exact variance is non-negative, so replacing a
    negative computed value by `0` moves it towards the exact one. -/
theorem variance_error (hfl : ∀ x, |fl x - x| ≤ u * |x|) (hu : 0 ≤ u) (xs : List ℝ)
    (hn : 2 ≤ xs.length) (hs : (xs.length : ℝ) * u ≤ 1 / 1024)
    (hnat : ∀ m : ℕ, m ≤ xs.length → fl m = m) :
    |(Arith.fromList (xs.map inj) : Arith (RR fl)).variance.val
        - (Arith.fromList (xs.map inj) : Arith Rex).variance.val| ≤
      44 * u * ((xs.map (fun x => x * x)).sum / ((xs.length : ℝ) - 1)) := by
  rw [Arith.fromList_variance xs hn]
  exact variance_bound hfl hu xs hn hs hnat

/-- the computed variance is non-negative (the clamp), and `variance?` (`sample_variance()` with
    `none` for the `usize` underflow of `count − 1` on the empty state) returns it -/
theorem variance_nonneg_and_total (xs : List ℝ) (hn : 2 ≤ xs.length) :
    0 ≤ (Arith.fromList (xs.map inj) : Arith (RR fl)).variance.val ∧
    (Arith.fromList (xs.map inj) : Arith (RR fl)).variance? =
      some (Arith.fromList (xs.map inj) : Arith (RR fl)).variance := by
  refine ⟨variance_nonneg _, ?_⟩
  rw [Arith.variance?_eq, if_neg]
  rw [fromList_count']
  omega

/-- **Standard deviation, square-root form** (valid also when `sd_exact = 0`):
    `|sd_fl − sd_exact| ≤ √(49·u·Σx²/(n − 1))`. -/
theorem stdDev_error_sqrt (hfl : ∀ x, |fl x - x| ≤ u * |x|) (hu : 0 ≤ u) (xs : List ℝ)
    (hn : 2 ≤ xs.length) (hs : (xs.length : ℝ) * u ≤ 1 / 1024)
    (hnat : ∀ m : ℕ, m ≤ xs.length → fl m = m) :
    |(Arith.fromList (xs.map inj) : Arith (RR fl)).stdDev.val
        - (Arith.fromList (xs.map inj) : Arith Rex).stdDev.val| ≤
      Real.sqrt (49 * u * ((xs.map (fun x => x * x)).sum / ((xs.length : ℝ) - 1))) := by
  rw [Arith.fromList_stdDev xs hn]
  have e : Real.sqrt (49 * u * ((xs.map (fun x => x * x)).sum / ((xs.length : ℝ) - 1))) =
      7 * Real.sqrt (u * ((xs.map (fun x => x * x)).sum / ((xs.length : ℝ) - 1))) := by
    rw [mul_assoc, Real.sqrt_mul (by norm_num : (0 : ℝ) ≤ 49),
      show (49 : ℝ) = 7 ^ 2 by norm_num, Real.sqrt_sq (by norm_num : (0 : ℝ) ≤ 7)]
  rw [e]
  exact (stdDev_bound hfl hu xs hn hs hnat).1

/-- **Standard deviation, relative form**: if `sd_exact > 0`,
    `|sd_fl − sd_exact| ≤ 46·u·Σx²/((n − 1)·sd_exact)`. -/
theorem stdDev_error_rel (hfl : ∀ x, |fl x - x| ≤ u * |x|) (hu : 0 ≤ u) (xs : List ℝ)
    (hn : 2 ≤ xs.length) (hs : (xs.length : ℝ) * u ≤ 1 / 1024)
    (hnat : ∀ m : ℕ, m ≤ xs.length → fl m = m)
    (hpos : 0 < (Arith.fromList (xs.map inj) : Arith Rex).stdDev.val) :
    |(Arith.fromList (xs.map inj) : Arith (RR fl)).stdDev.val
        - (Arith.fromList (xs.map inj) : Arith Rex).stdDev.val| ≤
      46 * u * ((xs.map (fun x => x * x)).sum / ((xs.length : ℝ) - 1))
        / (Arith.fromList (xs.map inj) : Arith Rex).stdDev.val := by
  rw [Arith.fromList_stdDev xs hn] at hpos ⊢
  rw [le_div_iff₀ hpos]
  exact (stdDev_bound hfl hu xs hn hs hnat).2

/-- **Standard deviation.** Both forms at once, for `sd_exact > 0`. -/
theorem stdDev_error (hfl : ∀ x, |fl x - x| ≤ u * |x|) (hu : 0 ≤ u) (xs : List ℝ)
    (hn : 2 ≤ xs.length) (hs : (xs.length : ℝ) * u ≤ 1 / 1024)
    (hnat : ∀ m : ℕ, m ≤ xs.length → fl m = m)
    (hpos : 0 < (Arith.fromList (xs.map inj) : Arith Rex).stdDev.val) :
    |(Arith.fromList (xs.map inj) : Arith (RR fl)).stdDev.val
        - (Arith.fromList (xs.map inj) : Arith Rex).stdDev.val| ≤
      min (46 * u * ((xs.map (fun x => x * x)).sum / ((xs.length : ℝ) - 1))
            / (Arith.fromList (xs.map inj) : Arith Rex).stdDev.val)
          (Real.sqrt (49 * u * ((xs.map (fun x => x * x)).sum / ((xs.length : ℝ) - 1)))) :=
  le_min (stdDev_error_rel hfl hu xs hn hs hnat hpos) (stdDev_error_sqrt hfl hu xs hn hs hnat)

/-- the reference: at exact arithmetic with the constant critical value `c` the interval is
    built from `x̄ ∓ c·s/√n` (C01 `bounds` at `crit = constCrit c`) -/
theorem interval_exact (c : ℝ) (conf : Confidence Rex) (xs : List ℝ) (hn : 2 ≤ xs.length)
    (h0 : 0 < conf.level.val) (h1 : conf.level.val < 1) :
    Arith.ci (constCrit c) conf (xs.map inj) =
      intervalOfKind conf (⟨smean xs - c * (ssd xs / Real.sqrt xs.length)⟩ : Rex)
        ⟨smean xs + c * (ssd xs / Real.sqrt xs.length)⟩ :=
  Arith.ci_rex_const c conf xs hn (probOk_quantile conf h0 h1)

/-- **Interval bounds, error of the standard deviation explicit.** At `RR fl`, with a constant
    critical value `c ≥ 0` and a probability the quantile routine accepts, `Arithmetic::ci` passes
    its guards and hands two bounds `lo`, `hi` to the interval constructor of the kind of `conf`;
    each differs from the exact `x̄ ∓ c·s/√n` by at most
    `15·u·Σ|x|/n + (1 + 8u)·c·|sd_fl − s|/√n + 7·u·c·s/√n`. -/
theorem interval_error (hfl : ∀ x, |fl x - x| ≤ u * |x|) (hu : 0 ≤ u) (xs : List ℝ)
    (hn : 2 ≤ xs.length) (hs : (xs.length : ℝ) * u ≤ 1 / 1024)
    (hnat : ∀ m : ℕ, m ≤ xs.length → fl m = m) (c : ℝ) (hc : 0 ≤ c)
    (conf : Confidence (RR fl)) (hp : probOk conf.quantile = true) :
    ∃ lo hi : ℝ,
      Arith.ci (constCrit c) conf (xs.map inj) = intervalOfKind conf (⟨lo⟩ : RR fl) ⟨hi⟩ ∧
      |lo - (smean xs - c * (ssd xs / Real.sqrt xs.length))| ≤
        15 * u * ((xs.map abs).sum / xs.length)
          + (1 + 8 * u) * (c * (|(Arith.fromList (xs.map inj) : Arith (RR fl)).stdDev.val - ssd xs|
              / Real.sqrt xs.length))
          + 7 * u * (c * (ssd xs / Real.sqrt xs.length)) ∧
      |hi - (smean xs + c * (ssd xs / Real.sqrt xs.length))| ≤
        15 * u * ((xs.map abs).sum / xs.length)
          + (1 + 8 * u) * (c * (|(Arith.fromList (xs.map inj) : Arith (RR fl)).stdDev.val - ssd xs|
              / Real.sqrt xs.length))
          + 7 * u * (c * (ssd xs / Real.sqrt xs.length)) :=
  ⟨_, _, ci_fl xs c conf hn hnat hp, bounds_bound_of_le hfl hu xs hn hs hnat c hc le_rfl⟩

/-- **Interval bounds, closed form valid for every sample** (also `s = 0`):
    `15·u·Σ|x|/n + (1 + 8u)·c·7·√(u·Σx²/(n − 1))/√n + 7·u·c·s/√n`. -/
theorem interval_error_sqrt (hfl : ∀ x, |fl x - x| ≤ u * |x|) (hu : 0 ≤ u) (xs : List ℝ)
    (hn : 2 ≤ xs.length) (hs : (xs.length : ℝ) * u ≤ 1 / 1024)
    (hnat : ∀ m : ℕ, m ≤ xs.length → fl m = m) (c : ℝ) (hc : 0 ≤ c)
    (conf : Confidence (RR fl)) (hp : probOk conf.quantile = true) :
    ∃ lo hi : ℝ,
      Arith.ci (constCrit c) conf (xs.map inj) = intervalOfKind conf (⟨lo⟩ : RR fl) ⟨hi⟩ ∧
      |lo - (smean xs - c * (ssd xs / Real.sqrt xs.length))| ≤
        15 * u * ((xs.map abs).sum / xs.length)
          + (1 + 8 * u) * (c * (7 * Real.sqrt (u * ((xs.map (fun x => x * x)).sum
              / ((xs.length : ℝ) - 1))) / Real.sqrt xs.length))
          + 7 * u * (c * (ssd xs / Real.sqrt xs.length)) ∧
      |hi - (smean xs + c * (ssd xs / Real.sqrt xs.length))| ≤
        15 * u * ((xs.map abs).sum / xs.length)
          + (1 + 8 * u) * (c * (7 * Real.sqrt (u * ((xs.map (fun x => x * x)).sum
              / ((xs.length : ℝ) - 1))) / Real.sqrt xs.length))
          + 7 * u * (c * (ssd xs / Real.sqrt xs.length)) :=
  ⟨_, _, ci_fl xs c conf hn hnat hp,
    bounds_bound_of_le hfl hu xs hn hs hnat c hc (stdDev_bound hfl hu xs hn hs hnat).1⟩

/-- **Interval bounds, `κ`-form** (the shape `u·(mean|x| + halfwidth·(1 + κ))` that the tolerance
    of the C01 oracle, `oracleMeanCI` in `Driver/StatOps.lean`, has where it takes the relative form
    of the deviation term; here with the one constant `47`): for `s² > 0`, with
    `κ = Σx²/((n − 1)·s²)` and `halfwidth = c·s/√n`, each bound computed at `RR fl` differs from
    the exact one by at most `47·u·(Σ|x|/n + halfwidth·(1 + κ))`. -/
theorem interval_error_kappa (hfl : ∀ x, |fl x - x| ≤ u * |x|) (hu : 0 ≤ u) (xs : List ℝ)
    (hn : 2 ≤ xs.length) (hs : (xs.length : ℝ) * u ≤ 1 / 1024)
    (hnat : ∀ m : ℕ, m ≤ xs.length → fl m = m) (c : ℝ) (hc : 0 ≤ c)
    (conf : Confidence (RR fl)) (hp : probOk conf.quantile = true) (hpos : 0 < svar xs) :
    ∃ lo hi : ℝ,
      Arith.ci (constCrit c) conf (xs.map inj) = intervalOfKind conf (⟨lo⟩ : RR fl) ⟨hi⟩ ∧
      |lo - (smean xs - c * (ssd xs / Real.sqrt xs.length))| ≤
        47 * u * ((xs.map abs).sum / xs.length + c * (ssd xs / Real.sqrt xs.length) *
          (1 + (xs.map (fun x => x * x)).sum / ((xs.length : ℝ) - 1) / svar xs)) ∧
      |hi - (smean xs + c * (ssd xs / Real.sqrt xs.length))| ≤
        47 * u * ((xs.map abs).sum / xs.length + c * (ssd xs / Real.sqrt xs.length) *
          (1 + (xs.map (fun x => x * x)).sum / ((xs.length : ℝ) - 1) / svar xs)) := by
  have hu' := u_small hu hn hs
  have hsd : 0 < ssd xs := Real.sqrt_pos.mpr hpos
  have hR : 0 < Real.sqrt xs.length := Real.sqrt_pos.mpr (natCast_pos hn)
  have hrel : |(Arith.fromList (xs.map inj) : Arith (RR fl)).stdDev.val - ssd xs| ≤
      46 * u * (sumSq xs / ((xs.length : ℝ) - 1)) / ssd xs := by
    rw [le_div_iff₀ hsd]
    exact (stdDev_bound hfl hu xs hn hs hnat).2
  obtain ⟨b1, b2⟩ := bounds_bound_of_le hfl hu xs hn hs hnat c hc hrel
  have hX : 0 ≤ KahanLemmas.sumAbs xs / (xs.length : ℝ) :=
    div_nonneg (KahanLemmas.sumAbs_nonneg xs) (Nat.cast_nonneg _)
  have hY := sumSq_div_nonneg xs hn
  have hk := kappa_le hu hu' (a := 15) (d := 46) (g := 0) (K := 47) hX hY hsd hR hc (by norm_num)
    le_rfl (by norm_num) (by norm_num) (by norm_num)
  rw [zero_mul, zero_mul, add_zero, ssd_mul_self xs (by omega)] at hk
  exact ⟨_, _, ci_fl xs c conf hn hnat hp, le_trans b1 hk, le_trans b2 hk⟩

/-- the hypotheses on `(fl, u, xs)` are met by exact arithmetic … -/
example : (∀ x : ℝ, |id x - x| ≤ 0 * |x|) ∧ (0 : ℝ) ≤ 0 ∧ 2 ≤ [(1 : ℝ), 2, 4].length ∧
    (([(1 : ℝ), 2, 4].length : ℕ) : ℝ) * 0 ≤ 1 / 1024 ∧
    (∀ m : ℕ, m ≤ [(1 : ℝ), 2, 4].length → id (m : ℝ) = m) := by
  refine ⟨by intro x; simp, le_refl _, by simp, by norm_num, by intro m _; rfl⟩

/-- … and by a rounding function that is not the identity: `fl x = x` on the natural numbers,
    `fl x = x·(1 + 2⁻¹²)` elsewhere, `u = 2⁻¹²`, three observations -/
example : ∃ (fl : ℝ → ℝ) (u : ℝ) (xs : List ℝ), (∀ x, |fl x - x| ≤ u * |x|) ∧ 0 ≤ u ∧
    2 ≤ xs.length ∧ (xs.length : ℝ) * u ≤ 1 / 1024 ∧ (∀ m : ℕ, m ≤ xs.length → fl m = m) ∧
    fl (1 / 2) ≠ 1 / 2 :=
  ⟨Rounding.flNat (1 / 4096), 1 / 4096, [1 / 2, 2, 4], Rounding.flNat_err (by norm_num),
    by norm_num, by simp, by norm_num, fun m _ => Rounding.flNat_nat _ m,
    Rounding.flNat_half (by norm_num)⟩

/-- the probability hypothesis of the interval theorems holds for a one-sided confidence at every
    `fl` (no arithmetic is performed on the level) -/
example (fl : ℝ → ℝ) : probOk (Confidence.upper (⟨0.95⟩ : RR fl)).quantile = true :=
  (RR.probOk_iff (⟨0.95⟩ : RR fl)).mpr ⟨by norm_num, by norm_num⟩

/-- … and for the two-sided 95% confidence at exact arithmetic -/
example : probOk (Confidence.twoSided (⟨0.95⟩ : Rex)).quantile = true :=
  probOk_quantile _ (by simp [Confidence.level]; norm_num) (by simp [Confidence.level]; norm_num)

/-- `s² > 0` (hypothesis of the `κ`-form and of the relative form): the sample `1, 2, 4` -/
example : 0 < svar [1, 2, 4] ∧
    0 < (Arith.fromList (([1, 2, 4] : List ℝ).map inj) : Arith Rex).stdDev.val := by
  have h : 0 < svar [1, 2, 4] := by rw [svar_one_two_four]; norm_num
  refine ⟨h, ?_⟩
  rw [Arith.fromList_stdDev _ (by simp)]
  exact Real.sqrt_pos.mpr h

end StatsCI.C01R
