/-
  C01 — Arithmetic mean: in exact arithmetic (`Rex = RR id`) the model's `Arithmetic` computes
  `x̄ = Σx/n`, `s² = Σ(x - x̄)²/(n-1)` and the interval `x̄ ∓ c·s/√n`, where `c` is the critical
  value the model requests (`t` with `n - 1` degrees of freedom below the population limit,
  `z` from it on); the ways of feeding data agree; fewer than two samples are rejected.

  Real statistics (`StatsCI.MeanLemmas`, files `Lemmas/SampleStats.lean`, `Lemmas/MeanExact.lean`):
  `smean xs = xs.sum / xs.length`,
  `sdev2 xs = Σ (x - smean xs)²`, `svar xs = sdev2 xs / (n - 1)`, `ssd xs = √(svar xs)`,
  `critVal crit conf n = (crit (critReq conf ⟨n - 1⟩)).val`,
  `halfWidth crit conf xs = critVal crit conf n * ssd xs / √n`.
-/
import StatsCI.Lemmas.MeanExact

namespace StatsCI.C01
open StatsCI StatsCI.MeanLemmas NumOps Scalar

/-! ### 1. mean -/

/-- `sample_mean()` of real data is `Σx / n` -/
theorem mean_exact (xs : List ℝ) :
    (Arith.fromList (xs.map inj) : Arith Rex).mean.val = xs.sum / xs.length :=
  Arith.fromList_mean xs

/-! ### 2. variance -/

/-- `sample_variance()` of `n ≥ 2` real data is `Σ(x - x̄)² / (n - 1)` -/
theorem variance_exact (xs : List ℝ) (hn : 2 ≤ xs.length) :
    (Arith.fromList (xs.map inj) : Arith Rex).variance.val =
      (xs.map (fun x => (x - xs.sum / xs.length) ^ 2)).sum / ((xs.length : ℝ) - 1) :=
  Arith.fromList_variance xs hn

/-- the clamp `if v < 0 { 0 }` of `sample_variance()` never fires in exact arithmetic: the
    quotient `(Σx² - x̄·Σx)/(n - 1)` the model forms is the (non-negative) sample variance -/
theorem variance_clamp_inactive (xs : List ℝ) (hn : 2 ≤ xs.length) :
    let a : Arith Rex := Arith.fromList (xs.map inj)
    let v : Rex := div (sub a.sumSq.value (mul a.mean a.sum.value)) (Scalar.ofNat (a.count - 1))
    lt v (zero : Rex) = false ∧ v.val = svar xs ∧ a.variance = v ∧
      a.variance? = some v := by
  intro a v
  have hv : v.val = svar xs := Arith.fromList_rawVar_eq_svar xs hn
  have h0 : lt v (zero : Rex) = false := by
    rw [Bool.eq_false_iff, Ne, RR.lt_iff, hv]
    exact not_lt.mpr (svar_nonneg xs (by omega))
  have hne : ¬ a.count = 0 := by
    rw [MeanRound.fromList_count']
    omega
  have hvar : a.variance = v := by
    show (if lt v (zero : Rex) then zero else v) = v
    rw [h0]; rfl
  exact ⟨h0, hv, hvar, by rw [Arith.variance?_eq, if_neg hne, hvar]⟩

/-- `sample_std_dev()` is `s = √s²` -/
theorem stdDev_exact (xs : List ℝ) (hn : 2 ≤ xs.length) :
    (Arith.fromList (xs.map inj) : Arith Rex).stdDev.val = Real.sqrt (svar xs) :=
  Arith.fromList_stdDev xs hn

/-! ### 3. the critical value requested -/

/-- below the population limit the request is Student's t with `n - 1` degrees of freedom at
    the probability `conf.quantile` -/
theorem crit_args_t (conf : Confidence Rex) (n : ℕ) (h : (n : ℝ) - 1 < 100000) :
    critReq conf (⟨(n : ℝ) - 1⟩ : Rex) = .t ⟨(n : ℝ) - 1⟩ conf.quantile := by
  rw [critReq_rex, if_pos h]

/-- from the population limit on the request is the normal quantile at `conf.quantile` -/
theorem crit_args_z (conf : Confidence Rex) (n : ℕ) (h : 100000 ≤ (n : ℝ) - 1) :
    critReq conf (⟨(n : ℝ) - 1⟩ : Rex) = .z conf.quantile := by
  rw [critReq_rex, if_neg (not_lt.mpr h)]

/-- the request as a function of `n`: `t(n - 1)` below the population limit `100000`, `z` from
    it on, in both cases at the probability `conf.quantile` -/
theorem crit_args (conf : Confidence Rex) (n : ℕ) :
    critReq conf (⟨(n : ℝ) - 1⟩ : Rex) =
      if (n : ℝ) - 1 < 100000 then .t ⟨(n : ℝ) - 1⟩ conf.quantile else .z conf.quantile :=
  critReq_rex conf _

/-- two-sided: the model's `1 - (1 - L)/2` is `(1 + L)/2` -/
theorem quantile_twoSided (l : Rex) : (Confidence.twoSided l).quantile.val = (1 + l.val) / 2 :=
  Confidence.quantile_twoSided_val l

/-- one-sided: the probability is the level itself -/
theorem quantile_oneSided (l : Rex) :
    (Confidence.upper l).quantile = l ∧ (Confidence.lower l).quantile = l := ⟨rfl, rfl⟩

/-- a valid level `0 < L < 1` gives a probability that `inverse_cdf` accepts -/
theorem quantile_admissible (conf : Confidence Rex) (h0 : 0 < conf.level.val)
    (h1 : conf.level.val < 1) : probOk conf.quantile = true :=
  probOk_quantile conf h0 h1

/-- the result depends on the quantile routine only through its answer to that one request -/
theorem crit_only_request (crit crit' : Crit Rex) (conf : Confidence Rex) (xs : List ℝ)
    (hn : 2 ≤ xs.length) (h0 : 0 < conf.level.val) (h1 : conf.level.val < 1)
    (h : crit (critReq conf ⟨(xs.length : ℝ) - 1⟩) = crit' (critReq conf ⟨(xs.length : ℝ) - 1⟩)) :
    Arith.ci crit conf (xs.map inj : List Rex) = Arith.ci crit' conf (xs.map inj : List Rex) := by
  rw [Arith.ci_rex crit conf xs hn (probOk_quantile conf h0 h1),
    Arith.ci_rex crit' conf xs hn (probOk_quantile conf h0 h1)]
  simp only [halfWidth, critVal, h]

/-! ### 4. the bounds -/

/-- all three kinds at once: the bounds are `x̄ ∓ c·s/√n`, assembled by the constructor that
    belongs to the kind of the confidence -/
theorem bounds (crit : Crit Rex) (conf : Confidence Rex) (xs : List ℝ) (hn : 2 ≤ xs.length)
    (h0 : 0 < conf.level.val) (h1 : conf.level.val < 1) :
    Arith.ci crit conf (xs.map inj) =
      intervalOfKind conf (⟨smean xs - halfWidth crit conf xs⟩ : Rex)
        ⟨smean xs + halfWidth crit conf xs⟩ :=
  Arith.ci_rex crit conf xs hn (probOk_quantile conf h0 h1)

/-- two-sided: `[x̄ - c·s/√n, x̄ + c·s/√n]`; `Interval::new` rejects exactly when the half-width
    is negative (`low > high`) -/
theorem bounds_twoSided (crit : Crit Rex) (l : Rex) (xs : List ℝ) (hn : 2 ≤ xs.length)
    (h0 : 0 < l.val) (h1 : l.val < 1) :
    Arith.ci crit (.twoSided l) (xs.map inj) =
      if 0 ≤ halfWidth crit (.twoSided l) xs then
        .ok (.twoSided (⟨smean xs - halfWidth crit (.twoSided l) xs⟩ : Rex)
          ⟨smean xs + halfWidth crit (.twoSided l) xs⟩)
      else .err (.interval .invalidBounds) := by
  rw [bounds crit (.twoSided l) xs hn h0 h1, intervalOfKind_pm]

/-- a non-negative critical value gives a non-negative half-width, hence a two-sided interval -/
theorem bounds_twoSided_of_nonneg (crit : Crit Rex) (l : Rex) (xs : List ℝ) (hn : 2 ≤ xs.length)
    (h0 : 0 < l.val) (h1 : l.val < 1) (hc : 0 ≤ critVal crit (.twoSided l) xs.length) :
    Arith.ci crit (.twoSided l) (xs.map inj) =
      .ok (.twoSided (⟨smean xs - halfWidth crit (.twoSided l) xs⟩ : Rex)
        ⟨smean xs + halfWidth crit (.twoSided l) xs⟩) := by
  have h : 0 ≤ halfWidth crit (.twoSided l) xs := by
    unfold halfWidth ssd
    exact div_nonneg (mul_nonneg hc (Real.sqrt_nonneg _)) (Real.sqrt_nonneg _)
  rw [bounds_twoSided crit l xs hn h0 h1, if_pos h]

/-- upper one-sided: `[x̄ - c·s/√n, +∞)` -/
theorem bounds_upper (crit : Crit Rex) (l : Rex) (xs : List ℝ) (hn : 2 ≤ xs.length)
    (h0 : 0 < l.val) (h1 : l.val < 1) :
    Arith.ci crit (.upper l) (xs.map inj) =
      .ok (.upper (⟨smean xs - halfWidth crit (.upper l) xs⟩ : Rex)) := by
  rw [bounds crit (.upper l) xs hn h0 h1]; rfl

/-- lower one-sided: `(-∞, x̄ + c·s/√n]` -/
theorem bounds_lower (crit : Crit Rex) (l : Rex) (xs : List ℝ) (hn : 2 ≤ xs.length)
    (h0 : 0 < l.val) (h1 : l.val < 1) :
    Arith.ci crit (.lower l) (xs.map inj) =
      .ok (.lower (⟨smean xs + halfWidth crit (.lower l) xs⟩ : Rex)) := by
  rw [bounds crit (.lower l) xs hn h0 h1]; rfl

/-- with `n ≥ 2` and a valid level the call never panics (`dof = n - 1 > 0`, `0 ≤ p ≤ 1`) -/
theorem no_panic (crit : Crit Rex) (conf : Confidence Rex) (xs : List ℝ) (hn : 2 ≤ xs.length)
    (h0 : 0 < conf.level.val) (h1 : conf.level.val < 1) :
    (Arith.ci crit conf (xs.map inj : List Rex)).isPanic = false := by
  rw [bounds crit conf xs hn h0 h1]
  exact intervalOfKind_isPanic conf _ _

/-! ### 5. the ways of feeding data agree (every carrier) -/

section styles
variable {F W : Type} [Scalar F] [Scalar W] [Widen F W]

/-- `Arithmetic::ci(conf, data)`, `from_iter(data).ci_mean(conf)` and
    `new().extend(data).ci_mean(conf)` are the same computation -/
theorem styles_agree (crit : Crit W) (conf : Confidence W) (ys : List F) :
    Arith.ci crit conf ys = (Arith.fromList ys).ciMean crit conf ∧
    Arith.ci crit conf ys = ((Arith.empty : Arith F).extend ys).ciMean crit conf :=
  ⟨rfl, rfl⟩

/-- appending one value at a time is `extend`: `extend` is the left fold of `append`, and
    appending after extending is extending by the longer list -/
theorem append_is_extend (a : Arith F) (ys : List F) (y : F) :
    a.extend ys = ys.foldl Arith.append a ∧
    (a.extend ys).append y = a.extend (ys ++ [y]) ∧
    (a.append y).extend ys = a.extend (y :: ys) := by
  refine ⟨rfl, ?_, rfl⟩
  rw [Arith.extend_append]; rfl

/-- feeding in two batches is feeding the concatenation -/
theorem extend_extend (a : Arith F) (ys zs : List F) :
    (a.extend ys).extend zs = a.extend (ys ++ zs) :=
  (Arith.extend_append a ys zs).symm

/-! ### 6. too few samples (every carrier) -/

/-- fewer than two samples: `TooFewSamples(n)` -/
theorem too_few (crit : Crit W) (conf : Confidence W) (ys : List F) (h : ys.length < 2) :
    Arith.ci crit conf ys = .err (.tooFewSamples ys.length) :=
  Arith.ci_of_lt crit conf ys h

end styles

/-! ### non-vacuity -/

/-- the hypotheses are met by the sample `1, 2, 4` at level `0.95`; there the mean is `7/3` -/
example : 2 ≤ [(1 : ℝ), 2, 4].length ∧ 0 < (Confidence.twoSided (⟨0.95⟩ : Rex)).level.val ∧
    (Confidence.twoSided (⟨0.95⟩ : Rex)).level.val < 1 ∧ smean [1, 2, 4] = 7 / 3 := by
  refine ⟨by decide, ?_, ?_, ?_⟩
  · show (0 : ℝ) < 0.95
    norm_num
  · show (0.95 : ℝ) < 1
    norm_num
  · show (1 + (2 + (4 + 0))) / ((3 : ℕ) : ℝ) = 7 / 3
    norm_num

example : ((3 : ℕ) : ℝ) - 1 < 100000 ∧ (100000 : ℝ) ≤ ((100001 : ℕ) : ℝ) - 1 := by
  constructor <;> norm_num

example : ([] : List ℝ).length < 2 ∧ [(5 : ℝ)].length < 2 := by simp

end StatsCI.C01
