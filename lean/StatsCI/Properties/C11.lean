/-
  C11 — Every interval-computing entry point is total: too few observations, non-finite
  observations, non-positive data for geometric/harmonic means, successes exceeding the population,
  too few successes or failures, a quantile outside (0,1) and unequal paired lengths produce the
  documented error variant rather than a panic; no call returns `Ok` with a NaN bound or with its
  lower bound above its upper bound. The only panics are the documented ones: the constructors of
  `Confidence` (C18), `Stats::new` with `successes > population`, interval arithmetic on opposite
  one-sided intervals (C13), the capacity of `ci_max_size`, and the `unwrap` of `partial_cmp` when
  `quantile::ci` sorts incomparable data.

  Carrier-independent results hold for every data type `F`, computation type `W` and critical-value
  oracle `crit`. All that is asked of the confidence is `probOk conf.quantile` (the probability handed
  to `inverse_cdf` lies in `[0,1]`; every constructible confidence has it, `valid_conf_probOk_*`), and
  of the carrier that `n − 1 > 0` for `n ≥ 2` (`LawfulCount`, instances for `Rex` and `XR`). Which
  special inputs fall in which error class, and that no `Ok` carries a NaN, is stated on
  `XR = ℝ ∪ {NaN, −∞, +∞}` with IEEE comparison and propagation.

  Modelling remarks:
  * `Ok` with `¬ (lo > hi)` is what `Interval::new` guarantees; under IEEE comparison this is weaker
    than `lo ≤ hi` when a bound is NaN. On `XR` the bounds are never NaN when `crit` is finite
    (`ok_never_nan`); if the external routine answered NaN the crate would return `Ok([NaN, NaN])`
    (`nan_crit_gives_ok_nan`).
  * `ci_wilson` clamps its bounds (`(mean − span).max(0.)`, `(mean + span).min(1.)`) before
    `Interval::new`. On `XR` and on rounded reals the clamp makes every `Ok` a finite interval inside
    `[0, 1]` with `lo ≤ hi`, for any critical value (`wilson_ok_unit_XR`, `wilson_ok_unit_RR`); a NaN
    critical value gives `Ok([0, 1])`; `InvalidBounds` is only ever a genuine `low > high` between
    non-NaN numbers (`wilson_invalidBounds_XR`), e.g. for a negative critical value.
  * `Unpaired::ci_mean` hands real-valued effective degrees of freedom to `t_value`, which panics on
    `dof ≤ 0`. The crate bounds the computed value below by `min(n_a, n_b) − 1`; without that bound
    rounding could produce `dof ≤ 0` (underflow of the fourth powers for spreads around 1e-81). With
    it no rounding function whatever leads to the panic (`unpaired_total_any_rounding`), and on `XR`
    the value is NaN/+∞ (z branch) or positive (`unpaired_total_XR`).
  * `ci_sorted_unchecked` does not check that its slice is sorted, but it does check the elements it
    selects: one that is not comparable with itself (a NaN) is answered by `InvalidInputData` and
    never comes back as a bound, for any slice (`sorted_unchecked_ok_selfCmp`,
    `sorted_unchecked_rejects_nan`). A NaN at a rank that is not selected goes unnoticed.
    `quantile::ci` sorts first and panics on a NaN there (`quantile_ci_panic_iff`).
-/
import StatsCI.Lemmas.Total

namespace StatsCI.C11
open StatsCI NumOps Scalar

/-! ## the hypotheses are satisfiable -/

/-- every constructible confidence passes `inverse_cdf`'s assertion, at exact reals … -/
theorem valid_conf_probOk_Rex (conf : Confidence Rex) (h : Confidence.validLevel conf.level = true) :
    probOk conf.quantile = true := Confidence.probOk_of_valid_Rex conf h

/-- … and on the extended reals -/
theorem valid_conf_probOk_XR (conf : Confidence XR) (h : Confidence.validLevel conf.level = true) :
    probOk conf.quantile = true := Confidence.probOk_of_valid_XR conf h

example : Confidence.validLevel (Confidence.twoSided (XR.fin 0.95)).level = true ∧
    probOk (Confidence.twoSided (XR.fin 0.95)).quantile = true :=
  ⟨Examples.conf95_valid_XR, valid_conf_probOk_XR _ Examples.conf95_valid_XR⟩

example : LawfulCount Rex ∧ LawfulCount XR ∧ LawfulCmp Rex ∧ LawfulCmp XR :=
  ⟨inferInstance, inferInstance, inferInstance, inferInstance⟩

/-! ## (i) carrier-independent -/

section generic
variable {F W : Type} [Scalar F] [Scalar W] [Widen F W]

/-! ### a. arithmetic mean -/

/-- `Arithmetic::ci_mean` is total: `TooFewSamples(n)` below two observations, `InvalidInputData`
    when mean or standard deviation is not finite, and never a panic -/
theorem arith_total [LawfulCount W] (crit : Crit W) (conf : Confidence W)
    (hq : probOk conf.quantile = true) (a : Arith F) :
    (a.count < 2 → Arith.ciMean crit a conf = .err (.tooFewSamples a.count)) ∧
    (2 ≤ a.count →
      (isFinite (Widen.up a.mean : W) = false ∨ isFinite (Widen.up a.stdDev : W) = false) →
      Arith.ciMean crit a conf = .err .invalidInputData) ∧
    (Arith.ciMean crit a conf).isPanic = false :=
  ⟨Arith.ciMean_of_lt crit a conf, Arith.ciMean_of_nonfinite crit a conf,
    Arith.ciMean_isPanic crit a conf hq⟩

/-- the same for the one-shot `Arithmetic::ci(confidence, data)` -/
theorem arith_ci_total [LawfulCount W] (crit : Crit W) (conf : Confidence W)
    (hq : probOk conf.quantile = true) (xs : List F) :
    (xs.length < 2 → Arith.ci crit conf xs = .err (.tooFewSamples xs.length)) ∧
    (Arith.ci crit conf xs).isPanic = false :=
  ⟨Arith.ci_of_lt crit conf xs, Arith.ciMean_isPanic crit _ conf hq⟩

/-- exactly when `ci_mean` panics, with no assumption at all: the guards pass and either Student-t
    is asked for with `n − 1` not positive, or `inverse_cdf` rejects the probability. With
    `LawfulCount` and a constructible confidence neither can happen (`arith_total`). -/
theorem arith_panic_iff (crit : Crit W) (conf : Confidence W) (a : Arith F) :
    (Arith.ciMean crit a conf).isPanic = true ↔
      2 ≤ a.count ∧ isFinite (Widen.up a.mean : W) = true ∧ isFinite (Widen.up a.stdDev : W) = true ∧
      ((lt (sub (Scalar.ofNat a.count) one : W) (populationLimit : W) = true ∧
          gt (sub (Scalar.ofNat a.count) one : W) (zero : W) = false) ∨
        probOk conf.quantile = false) :=
  Arith.ciMean_isPanic_iff crit a conf

/-- every error of `ci_mean` is one of the documented variants -/
theorem arith_err_classes (crit : Crit W) (conf : Confidence W) (a : Arith F) (e : Err W)
    (h : Arith.ciMean crit a conf = .err e) :
    (a.count < 2 ∧ e = .tooFewSamples a.count) ∨
    (2 ≤ a.count ∧ e = .invalidInputData ∧
      (isFinite (Widen.up a.mean : W) = false ∨ isFinite (Widen.up a.stdDev : W) = false)) ∨
    (2 ≤ a.count ∧ e = .interval .invalidBounds ∧ conf.kind = .twoSided) := by
  rw [MeanLemmas.Arith.ciMean_eq_finish, MeanLemmas.finish_eq_err_iff] at h
  rcases h with hp | ⟨p, hp, _, _, he, hk, _⟩
  · exact (Arith.ciPrep_eq_err_iff.mp hp).elim Or.inl fun k => Or.inr (Or.inl k)
  · exact Or.inr (Or.inr ⟨(Arith.ciPrep_eq_ok_iff.mp hp).1, he,
      (Confidence.isTwoSided_iff_kind conf).mp hk⟩)

/-! ### b. what an `Ok` looks like -/

/-- an `Ok` of `ci_mean` has the kind of the confidence, a two-sided one has `¬ lo > hi`, and the
    statistics that entered were finite (no hypothesis needed) -/
theorem arith_ok_is_sane (crit : Crit W) (conf : Confidence W) (a : Arith F) (i : Interval F)
    (h : Arith.ciMean crit a conf = .ok i) :
    2 ≤ a.count ∧ isFinite (Widen.up a.mean : W) = true ∧ isFinite (Widen.up a.stdDev : W) = true ∧
    ∃ lo hi : F, (conf.kind = .twoSided → i = .twoSided lo hi ∧ gt lo hi = false) ∧
      (conf.kind = .upper → i = .upper lo) ∧ (conf.kind = .lower → i = .lower hi) := by
  obtain ⟨h2, hm, hs, _, _, h⟩ := Arith.ciMean_eq_ok_iff.mp h
  exact ⟨h2, hm, hs, _, _, intervalOfKind_eq_ok h⟩

/-- with lawful comparison and finite bounds, `¬ lo > hi` is `lo ≤ hi` -/
theorem arith_ok_le [LawfulCmp F] (crit : Crit W) (l : W) (a : Arith F) (lo hi : F)
    (h : Arith.ciMean crit a (.twoSided l) = .ok (.twoSided lo hi))
    (hlo : isFinite lo = true) (hhi : isFinite hi = true) : le lo hi = true := by
  obtain ⟨_, _, _, lo', hi', h1, _, _⟩ := arith_ok_is_sane crit _ a _ h
  obtain ⟨heq, hg⟩ := h1 rfl
  obtain ⟨rfl, rfl⟩ := Interval.twoSided.inj heq
  rw [← Bool.not_eq_false', ← LawfulCmp.lt_eq_not_le hi lo hhi hlo]
  exact hg

/-- the hypotheses of `arith_ok_is_sane` / `arith_ok_le` are satisfiable (exact reals, sample `1, 2`) -/
example : ∃ lo hi : Rex,
    Arith.ciMean (constCrit 2 : Crit Rex) Examples.a12 (.twoSided (inj 0.95)) = .ok (.twoSided lo hi) ∧
    isFinite lo = true ∧ isFinite hi = true := by
  obtain ⟨lo, hi, h, _⟩ := Examples.arith_ok
  exact ⟨lo, hi, h, rfl, rfl⟩

/-! ### c. comparisons -/

/-- `Paired::ci`: unequal lengths are `DifferentSampleSizes(len_a, len_b)`; equal lengths are the
    arithmetic interval of the differences; never a panic -/
theorem paired_total [LawfulCount W] (crit : Crit W) (conf : Confidence W)
    (hq : probOk conf.quantile = true) (as bs : List F) :
    (as.length ≠ bs.length →
      Paired.ci crit conf as bs = .err (.differentSampleSizes as.length bs.length)) ∧
    (as.length = bs.length →
      Paired.ci crit conf as bs = Arith.ciMean crit (Arith.fromList (List.zipWith sub as bs)) conf) ∧
    (as.length = bs.length → as.length < 2 →
      Paired.ci crit conf as bs = .err (.tooFewSamples as.length)) ∧
    (Paired.ci crit conf as bs).isPanic = false := by
  have hp : (Paired.ci crit conf as bs).isPanic = false := by
    by_cases h : as.length = bs.length
    · rw [Paired.ci_of_length_eq crit conf h]; exact Arith.ciMean_isPanic _ _ _ hq
    · rw [Paired.ci_of_length_ne crit conf h]; rfl
  refine ⟨Paired.ci_of_length_ne crit conf, Paired.ci_of_length_eq crit conf, fun h h2 => ?_, hp⟩
  have hl : (List.zipWith sub as bs).length = as.length := by
    rw [List.length_zipWith, ← h, Nat.min_self]
  rw [Paired.ci_eq, if_pos h, Arith.ci_of_lt crit conf _ (hl ▸ h2), hl]

/-- `Paired::ci_mean` is `Arithmetic::ci_mean` of the accumulated differences, so `arith_total`,
    `arith_ok_is_sane`, `arith_err_classes` apply verbatim -/
theorem paired_ciMean_eq (crit : Crit W) (conf : Confidence W) (p : Paired F) :
    p.ciMean crit conf = p.stats.ciMean crit conf := rfl

/-- `Unpaired::ci_mean`: `TooFewSamples` for either side below two observations (the first sample is
    reported first), `InvalidInputData` for a non-finite mean difference or standard error -/
theorem unpaired_err_classes (crit : Crit W) (conf : Confidence W) (u : Unpaired F) :
    (u.a.count < 2 → Unpaired.ciMean crit u conf = .err (.tooFewSamples u.a.count)) ∧
    (2 ≤ u.a.count → u.b.count < 2 → Unpaired.ciMean crit u conf = .err (.tooFewSamples u.b.count)) ∧
    (2 ≤ u.a.count → 2 ≤ u.b.count →
      (isFinite (Unpaired.meanDiff u) = false ∨ isFinite (Unpaired.semF u) = false) →
      Unpaired.ciMean crit u conf = .err .invalidInputData) := by
  refine ⟨fun h => ?_, fun h1 h2 => ?_, fun h1 h2 h3 => ?_⟩
  · rw [Unpaired.ciMean_eq, if_pos h]
  · rw [Unpaired.ciMean_eq, if_neg (Nat.not_lt.mpr h1), if_pos h2]
  · rw [Unpaired.ciMean_eq, if_neg (Nat.not_lt.mpr h1), if_neg (Nat.not_lt.mpr h2), if_neg]
    rintro ⟨hm, hs⟩
    rcases h3 with h3 | h3
    · rw [hm] at h3; cases h3
    · rw [hs] at h3; cases h3

/-- `Unpaired::ci_mean` panics exactly when the guards pass and either Student-t is asked for with
    effective degrees of freedom that are not positive or `inverse_cdf` rejects the probability
    (`Unpaired.ciMean_isPanic_iff`); hence never when the degrees of freedom are positive or not below
    the limit -/
theorem unpaired_total (crit : Crit W) (conf : Confidence W) (hq : probOk conf.quantile = true)
    (u : Unpaired F)
    (hd : lt (Unpaired.dofW u : W) (populationLimit : W) = true →
      gt (Unpaired.dofW u : W) (zero : W) = true) :
    (Unpaired.ciMean crit u conf).isPanic = false :=
  Unpaired.ciMean_isPanic crit u conf hq fun _ _ => hd

/-- on `XR` the hypothesis on the degrees of freedom always holds -/
theorem unpaired_total_XR (crit : Crit XR) (conf : Confidence XR) (hq : probOk conf.quantile = true)
    (u : Unpaired XR) : (Unpaired.ciMean crit u conf).isPanic = false :=
  Unpaired.ciMean_isPanic crit u conf hq fun h1 h2 hl => by
    rw [Unpaired.dofW_eq_dofF_XR] at hl ⊢
    exact XR.clampDof_gt_zero _ h1 h2 hl

/-- **Whatever the rounding — underflow of the fourth powers included — `t_value` is never asked for
    a non-positive number of degrees of freedom.** On the reals with an *arbitrary* function `fl`
    applied after every operation (no accuracy assumption at all: `fl` may send the products in the
    effective-degrees-of-freedom formula to zero, as underflow does), the value handed on is the
    computed one bounded below by `fl (min (fl n_a) (fl n_b) − 1)`; as soon as that bound is positive
    (it is `min(n_a, n_b) − 1 ≥ 1` when `fl` is exact on the two counts and on that difference, as
    IEEE arithmetic is for counts below 2⁵³) `Unpaired::ci_mean` does not panic. Without the bound
    the computed value can be `0`: `Unpaired::ci(0.95, [0, 3.3e-81], [1, 1, 1])` underflows to it. -/
theorem unpaired_total_any_rounding {fl : ℝ → ℝ} (crit : Crit (RR fl)) (conf : Confidence (RR fl))
    (hq : probOk conf.quantile = true) (u : Unpaired (RR fl))
    (hpos : 0 < fl (min (fl u.a.count) (fl u.b.count) - 1)) :
    (Unpaired.ciMean crit u conf).isPanic = false :=
  unpaired_total crit conf hq u fun _ => Unpaired.dofW_gt_zero_RR u hpos

/-- the hypothesis is satisfiable, and met by every rounding that is exact on small integers:
    exact arithmetic, sizes 2 and 3 -/
example : (0 : ℝ) < id (min (id ((2 : ℕ) : ℝ)) (id ((3 : ℕ) : ℝ)) - 1) := by norm_num

/-- at exact reals no hypothesis on the samples is needed: two constant samples (where `Rex`
    evaluates `0/0` to `0`) get `min(n_a, n_b) − 1` degrees of freedom -/
theorem unpaired_total_Rex' (crit : Crit Rex) (conf : Confidence Rex)
    (hq : probOk conf.quantile = true) (u : Unpaired Rex) (ha : 2 ≤ u.a.count) (hb : 2 ≤ u.b.count) :
    (Unpaired.ciMean crit u conf).isPanic = false :=
  unpaired_total_any_rounding crit conf hq u (min_count_sub_one_pos ha hb)

/-- (`hpos` is not used. `unpaired_total_Rex'` is the statement without it; it assumes the two
    counts `≥ 2`, which the proof here takes from the guards.) -/
theorem unpaired_total_Rex (crit : Crit Rex) (conf : Confidence Rex)
    (hq : probOk conf.quantile = true) (u : Unpaired Rex)
    (hpos : (Unpaired.s2n u.a).val ≠ 0 ∨ (Unpaired.s2n u.b).val ≠ 0) :
    (Unpaired.ciMean crit u conf).isPanic = false :=
  Unpaired.ciMean_isPanic crit u conf hq fun ha hb _ =>
    Unpaired.dofW_gt_zero_RR u (min_count_sub_one_pos ha hb)

/-- an `Ok` of `Unpaired::ci_mean`: kind of the confidence, `¬ lo > hi`, finite statistics -/
theorem unpaired_ok_is_sane (crit : Crit W) (conf : Confidence W) (u : Unpaired F) (i : Interval F)
    (h : Unpaired.ciMean crit u conf = .ok i) :
    2 ≤ u.a.count ∧ 2 ≤ u.b.count ∧ isFinite (Unpaired.meanDiff u) = true ∧
    isFinite (Unpaired.semF u) = true ∧
    ∃ lo hi : F, (conf.kind = .twoSided → i = .twoSided lo hi ∧ gt lo hi = false) ∧
      (conf.kind = .upper → i = .upper lo) ∧ (conf.kind = .lower → i = .lower hi) := by
  obtain ⟨h1, h2, hm, hs, _, _, h⟩ := Unpaired.ciMean_eq_ok_iff.mp h
  exact ⟨h1, h2, hm, hs, _, _, intervalOfKind_eq_ok h⟩

/-- the hypotheses of `unpaired_ok_is_sane` and `unpaired_total_Rex` are satisfiable -/
example : (∃ lo hi : Rex,
    Unpaired.ciMean (constCrit 2 : Crit Rex) ⟨Examples.a12, Examples.a12⟩ (.twoSided (inj 0.95)) =
      .ok (.twoSided lo hi)) ∧
    ((Unpaired.s2n Examples.a12).val ≠ 0 ∨ (Unpaired.s2n Examples.a12).val ≠ 0) := by
  obtain ⟨lo, hi, h, _⟩ := Examples.unpaired_ok
  exact ⟨⟨lo, hi, h⟩, Or.inl (by rw [Examples.s2n_a12]; norm_num)⟩

/-! ### d. geometric and harmonic means -/

/-- `Geometric::ci`: the first non-positive element is reported as `NonPositiveValue`; positive data
    are the arithmetic interval of the logarithms, exponentiated; never a panic -/
theorem geometric_total [LawfulCount W] (crit : Crit W) (conf : Confidence W)
    (hq : probOk conf.quantile = true) :
    (∀ (pre : List F) (x : F) (post : List F), (∀ y ∈ pre, le y (zero : F) = false) →
      le x (zero : F) = true →
      Geometric.ci crit conf (pre ++ x :: post) = .err (.nonPositiveValue (Widen.up x))) ∧
    (∀ xs : List F, (∀ x ∈ xs, le x (zero : F) = false) →
      Geometric.ci crit conf xs = Geometric.ciMean crit ⟨Arith.fromList (xs.map ln)⟩ conf) ∧
    (∀ xs : List F, (Geometric.ci crit conf xs).isPanic = false) ∧
    (∀ g : Geometric F, (Geometric.ciMean crit g conf).isPanic = false) := by
  have hm : ∀ g : Geometric F, (Geometric.ciMean crit g conf).isPanic = false := fun g =>
    Outcome.isPanic_bind (Arith.ciMean_isPanic _ _ _ hq) fun _ _ => intervalOfKind_isPanic _ _ _
  refine ⟨Geometric.ci_of_nonpos crit conf,
    fun xs h => by rw [Geometric.ci_eq, find?_nonpos_eq_none h], fun xs => ?_, hm⟩
  rw [Geometric.ci_eq]
  split
  · rfl
  · exact hm _

/-- `Harmonic::ci` likewise, on the reciprocals at the flipped confidence -/
theorem harmonic_total [LawfulCount W] (crit : Crit W) (conf : Confidence W)
    (hq : probOk conf.quantile = true) :
    (∀ (pre : List F) (x : F) (post : List F), (∀ y ∈ pre, le y (zero : F) = false) →
      le x (zero : F) = true →
      Harmonic.ci crit conf (pre ++ x :: post) = .err (.nonPositiveValue (Widen.up x))) ∧
    (∀ xs : List F, (∀ x ∈ xs, le x (zero : F) = false) →
      Harmonic.ci crit conf xs =
        Harmonic.ciMean crit ⟨Arith.fromList (xs.map fun x => div one x)⟩ conf) ∧
    (∀ xs : List F, (Harmonic.ci crit conf xs).isPanic = false) ∧
    (∀ g : Harmonic F, (Harmonic.ciMean crit g conf).isPanic = false) := by
  have hm : ∀ g : Harmonic F, (Harmonic.ciMean crit g conf).isPanic = false := fun g =>
    Outcome.isPanic_bind (Arith.ciMean_isPanic _ _ _ ((Confidence.flipped_quantile conf).symm ▸ hq))
      fun _ _ => intervalOfKind_isPanic _ _ _
  refine ⟨Harmonic.ci_of_nonpos crit conf,
    fun xs h => by rw [Harmonic.ci_eq, find?_nonpos_eq_none h], fun xs => ?_, hm⟩
  rw [Harmonic.ci_eq]
  split
  · rfl
  · exact hm _

example : ∀ y ∈ ([XR.fin 1, XR.fin 2] : List XR), le y (zero : XR) = false := by
  intro y hy; simp at hy; rcases hy with rfl | rfl <;> simp

/-- an `Ok` of either: kind of the confidence, `¬ lo > hi`, finite statistics of the transformed data -/
theorem geometric_harmonic_ok_is_sane (crit : Crit W) (conf : Confidence W) (i : Interval F) :
    (∀ g : Geometric F, Geometric.ciMean crit g conf = .ok i →
      2 ≤ g.logs.count ∧ isFinite (Widen.up g.logs.mean : W) = true ∧
      isFinite (Widen.up g.logs.stdDev : W) = true ∧
      ∃ lo hi : F, (conf.kind = .twoSided → i = .twoSided lo hi ∧ gt lo hi = false) ∧
        (conf.kind = .upper → i = .upper lo) ∧ (conf.kind = .lower → i = .lower hi)) ∧
    (∀ g : Harmonic F, Harmonic.ciMean crit g conf = .ok i →
      2 ≤ g.recip.count ∧ isFinite (Widen.up g.recip.mean : W) = true ∧
      isFinite (Widen.up g.recip.stdDev : W) = true ∧
      ∃ lo hi : F, (conf.kind = .twoSided → i = .twoSided lo hi ∧ gt lo hi = false) ∧
        (conf.kind = .upper → i = .upper lo) ∧ (conf.kind = .lower → i = .lower hi)) := by
  constructor <;> intro g h <;> obtain ⟨j, hj, h⟩ := Outcome.bind_eq_ok_iff.mp h <;>
    obtain ⟨h2, hm, hs, _⟩ := arith_ok_is_sane crit _ _ _ hj <;>
    exact ⟨h2, hm, hs, _, _, intervalOfKind_eq_ok h⟩

end generic

/-! ### e. proportions -/

section proportion
variable {W : Type} [Scalar W]

/-- `ci_wilson` (= `proportion::ci`, `Stats::ci`, `ci_true`, `ci_if`): the error classes by the guards,
    in the crate's order; past the guards the `Interval::new` of the Wilson numbers clamped into
    `[0, 1]` (`wilson_clamped`); never a panic -/
theorem wilson_total (crit : Crit W) (conf : Confidence W) (hq : probOk conf.quantile = true)
    (n k : Nat) :
    (n < k → Proportion.ciWilson crit conf n k = .err (.invalidSuccesses k n)) ∧
    (k ≤ n → k < 2 →
      Proportion.ciWilson crit conf n k = .err (.tooFewSuccesses k n (Scalar.ofNat k))) ∧
    (k ≤ n → 2 ≤ k → n - k < 2 → Proportion.ciWilson crit conf n k =
      .err (.tooFewFailures (n - k) n (sub (Scalar.ofNat n) (Scalar.ofNat k)))) ∧
    (Proportion.ciWilson crit conf n k).isPanic = false :=
  ⟨fun h => by rw [Proportion.ciWilson_eq, if_pos h],
    fun h h2 => by rw [Proportion.ciWilson_eq, if_neg (Nat.not_lt.mpr h), if_pos h2],
    fun h h2 h3 => by
      rw [Proportion.ciWilson_eq, if_neg (Nat.not_lt.mpr h), if_neg (Nat.not_lt.mpr h2), if_pos h3],
    Proportion.ciWilson_isPanic crit conf n k hq⟩

/-- every error of `ci_wilson` is a documented variant; its only panic is `inverse_cdf` on a
    probability outside `[0,1]`; every `Ok` is two-sided with `¬ lo > hi` -/
theorem wilson_outcomes (crit : Crit W) (conf : Confidence W) (n k : Nat) :
    (∀ e, Proportion.ciWilson crit conf n k = .err e →
      (n < k ∧ e = .invalidSuccesses k n) ∨
      (k ≤ n ∧ k < 2 ∧ e = .tooFewSuccesses k n (Scalar.ofNat k)) ∨
      (k ≤ n ∧ 2 ≤ k ∧ n - k < 2 ∧
        e = .tooFewFailures (n - k) n (sub (Scalar.ofNat n) (Scalar.ofNat k))) ∨
      (k ≤ n ∧ 2 ≤ k ∧ 2 ≤ n - k ∧ e = .interval .invalidBounds)) ∧
    ((Proportion.ciWilson crit conf n k).isPanic = true ↔
      k ≤ n ∧ 2 ≤ k ∧ 2 ≤ n - k ∧ probOk conf.quantile = false) ∧
    (∀ i, Proportion.ciWilson crit conf n k = .ok i →
      k ≤ n ∧ 2 ≤ k ∧ 2 ≤ n - k ∧ ∃ lo hi, i = .twoSided lo hi ∧ gt lo hi = false) := by
  refine ⟨fun e h => ?_, Proportion.ciWilson_isPanic_iff crit conf n k, fun i h => ?_⟩
  · rcases Proportion.ciWilson_eq_err_iff.mp h with h | h | h | ⟨h1, h2, h3, _, h⟩
    · exact Or.inl h
    · exact Or.inr (Or.inl h)
    · exact Or.inr (Or.inr (Or.inl h))
    · rw [Proportion.finishWilson_eq, liftI_new_eq_err_iff] at h
      exact Or.inr (Or.inr (Or.inr ⟨h1, h2, h3, h.2⟩))
  · obtain ⟨h1, h2, h3, _, h⟩ := Proportion.ciWilson_eq_ok_iff.mp h
    rw [Proportion.finishWilson_eq, liftI_new_eq_ok_iff] at h
    exact ⟨h1, h2, h3, _, _, h.2, h.1⟩

/-- what `ci_wilson` builds past its guards, on every carrier: with `c`, `s` the Wilson centre and
    span at the one critical value the oracle supplies, `low = (c − s).max(0.)` and
    `high = (c + s).min(1.)` (`fmax` / `fmin`: `f64::max` / `f64::min`, a NaN argument gives the other
    one), an `Ok` is `[low, high]`, `[low, 1]` or `[0, high]` by the kind of the confidence, with
    `¬ lo > hi`; and the `InvalidBounds` error means exactly `lo > hi` for that same pair -/
theorem wilson_clamped (crit : Crit W) (conf : Confidence W) (n k : Nat) :
    let c := Proportion.wilsonCentre (Scalar.ofNat n) (Scalar.ofNat k) (crit (.z conf.quantile))
    let s := Proportion.wilsonSpan (Scalar.ofNat n) (Scalar.ofNat k) (crit (.z conf.quantile))
    (∀ i, Proportion.ciWilson crit conf n k = .ok i →
      ∃ lo hi, i = .twoSided lo hi ∧ gt lo hi = false ∧
        (conf.kind = .twoSided → lo = fmax (sub c s) zero ∧ hi = fmin (add c s) one) ∧
        (conf.kind = .upper → lo = fmin (fmax (sub c s) zero) one ∧ hi = one) ∧
        (conf.kind = .lower → lo = zero ∧ hi = fmax (fmin (add c s) one) zero)) ∧
    (Proportion.ciWilson crit conf n k = .err (.interval .invalidBounds) →
      ∃ lo hi : W, gt lo hi = true ∧
        (conf.kind = .twoSided → lo = fmax (sub c s) zero ∧ hi = fmin (add c s) one) ∧
        (conf.kind = .upper → lo = fmin (fmax (sub c s) zero) one ∧ hi = one) ∧
        (conf.kind = .lower → lo = zero ∧ hi = fmax (fmin (add c s) one) zero)) := by
  intro c s
  refine ⟨fun i h => ?_, fun h => ?_⟩
  · have h := (Proportion.ciWilson_eq_ok_iff.mp h).2.2.2.2
    rw [Proportion.finishWilson_eq, liftI_new_eq_ok_iff] at h
    exact ⟨_, _, h.2, h.1, Proportion.wilsonEnds_spec conf c s⟩
  · exact ⟨_, _, (Proportion.ciWilson_eq_invalidBounds h).2.2.2.2,
      Proportion.wilsonEnds_spec conf c s⟩

/-- the wrappers are `ci_wilson` -/
theorem wilson_wrappers (crit : Crit W) (conf : Confidence W) (n k : Nat) (s : Proportion.Stats)
    (bs : List Bool) :
    Proportion.ci crit conf n k = Proportion.ciWilson crit conf n k ∧
    s.ci crit conf = Proportion.ciWilson crit conf s.population s.successes ∧
    Proportion.ciTrue crit conf bs =
      Proportion.ciWilson crit conf (Proportion.Stats.fromList bs).population
        (Proportion.Stats.fromList bs).successes := ⟨rfl, rfl, rfl⟩

/-- `ci_wilson_ratio`: a non-positive rate is `NonPositiveValue`, otherwise `ci_wilson` of the
    rounded count; never a panic -/
theorem wilsonRatio_total (crit : Crit W) (conf : Confidence W) (hq : probOk conf.quantile = true)
    (n : Nat) (rate : W) :
    (le rate (zero : W) = true →
      Proportion.ciWilsonRatio crit conf n rate = .err (.nonPositiveValue rate)) ∧
    (le rate (zero : W) = false → Proportion.ciWilsonRatio crit conf n rate =
      Proportion.ciWilson crit conf n (roundToNat (mul rate (Scalar.ofNat n)))) ∧
    (Proportion.ciWilsonRatio crit conf n rate).isPanic = false := by
  rw [Proportion.ciWilsonRatio_eq]
  refine ⟨fun h => if_pos h, fun h => if_neg (h ▸ Bool.false_ne_true), ?_⟩
  split
  · rfl
  · exact Proportion.ciWilson_isPanic _ _ _ _ hq

/-- `ci_z_normal` (Wald): the same classes with threshold ten; never a panic; `Ok` is two-sided
    with `¬ lo > hi` -/
theorem zNormal_total (crit : Crit W) (conf : Confidence W) (hq : probOk conf.quantile = true)
    (n k : Nat) :
    (n < k → Proportion.ciZNormal crit conf n k = .err (.invalidSuccesses k n)) ∧
    (k ≤ n → k < 10 → Proportion.ciZNormal crit conf n k =
      .err (.tooFewSuccesses k n (mul (Scalar.ofNat n) (Proportion.waldP n k)))) ∧
    (k ≤ n → 10 ≤ k → n - k < 10 → Proportion.ciZNormal crit conf n k =
      .err (.tooFewFailures (n - k) n (mul (Scalar.ofNat n) (Proportion.waldQ n k)))) ∧
    (Proportion.ciZNormal crit conf n k).isPanic = false ∧
    (∀ i, Proportion.ciZNormal crit conf n k = .ok i →
      k ≤ n ∧ 10 ≤ k ∧ 10 ≤ n - k ∧ ∃ lo hi, i = .twoSided lo hi ∧ gt lo hi = false) := by
  refine ⟨fun h => ?_, fun h1 h2 => ?_, fun h1 h2 h3 => ?_, ?_, fun i h => ?_⟩
  · rw [Proportion.ciZNormal_eq, if_pos h]
  · rw [Proportion.ciZNormal_eq, if_neg (Nat.not_lt.mpr h1), if_pos h2]
  · rw [Proportion.ciZNormal_eq, if_neg (Nat.not_lt.mpr h1), if_neg (Nat.not_lt.mpr h2), if_pos h3]
  · rw [Proportion.ciZNormal_eq, if_pos hq, Proportion.finish_eq]
    exact Outcome.isPanic_ite_err (Outcome.isPanic_ite_err (Outcome.isPanic_ite_err (liftI_isPanic _)))
  · obtain ⟨h1, h2, h3, _, h⟩ := Proportion.ciZNormal_eq_ok_iff.mp h
    rw [Proportion.finish_eq, liftI_new_eq_ok_iff] at h
    exact ⟨h1, h2, h3, _, _, h.2, h.1⟩

example : probOk (Confidence.upper (XR.fin 0.9)).quantile = true :=
  valid_conf_probOk_XR _ ((XR.validLevel_fin _).mpr ⟨by norm_num, by norm_num⟩)

/-- `is_significant` is a total Boolean function (no `usize` underflow): characterisation … -/
theorem isSignificant_iff (n k : Nat) :
    Proportion.isSignificant n k = true ↔ n > 30 ∧ k > 5 ∧ k ≤ n ∧ n - k > 5 := by
  simp [Proportion.isSignificant, and_assoc]

/-- … and the regression example: more successes than population is `false`, not a panic -/
theorem isSignificant_31_40 : Proportion.isSignificant 31 40 = false := by decide

/-- `Stats::new` is the one documented panic of the proportion module -/
theorem stats_new_panic_iff (n k : Nat) : Proportion.Stats.new? n k = none ↔ n < k := by
  unfold Proportion.Stats.new?; split <;> simp_all

end proportion

/-! ### f. quantiles -/

section quantile
variable {W : Type} [Scalar W]

/-- `ci_indices` (= `quantile::Stats::ci`): `InvalidQuantile` outside `(0,1)`, `TooFewSamples` below
    four, never a panic; an `Ok` has the kind of the confidence, `lo ≤ hi`, and stays inside
    `0..n−1` -/
theorem ciIndices_total (crit : Crit W) (conf : Confidence W) (hq : probOk conf.quantile = true)
    (n : Nat) (q : W) :
    ((gt q (zero : W) && lt q (one : W)) = false →
      Quantile.ciIndices crit conf n q = .err (.invalidQuantile q)) ∧
    ((gt q (zero : W) && lt q (one : W)) = true → n < 4 →
      Quantile.ciIndices crit conf n q = .err (.tooFewSamples n)) ∧
    (Quantile.ciIndices crit conf n q).isPanic = false ∧
    (∀ idx, Quantile.ciIndices crit conf n q = .ok idx →
      (gt q (zero : W) && lt q (one : W)) = true ∧ 4 ≤ n ∧ Quantile.IdxOk conf idx n) :=
  ⟨Quantile.ciIndices_of_bad_q crit conf n,
    fun h hn => by rw [Quantile.ciIndices_eq_bind, if_pos h, if_pos hn],
    Quantile.ciIndices_isPanic crit conf n q hq, fun _ h => Quantile.ciIndices_eq_ok h⟩

/-- `ci_sorted_unchecked`: `InvalidQuantile` outside `(0,1)`; element access never leaves the slice
    (the indices come out of `index`, clamped at `n − 1`, and `n ≥ 4`), so never a panic; an `Ok`
    consists of the slice elements at the computed positions, each comparable with itself
    (`Quantile.PickOk`: on floats, not a NaN), with `¬ lo > hi`; an element at a selected rank that is
    not comparable with itself is `InvalidInputData`; and every error is an error of the index
    computation, that `InvalidInputData`, or `InvalidBounds` for a two-sided pick with `lo > hi`
    (possible only on a slice that was not sorted) -/
theorem ciSortedUnchecked_total {T : Type} [Cmp T] (crit : Crit W) (conf : Confidence W)
    (hq : probOk conf.quantile = true) (sorted : List T) (q : W) :
    ((gt q (zero : W) && lt q (one : W)) = false →
      Quantile.ciSortedUnchecked crit conf sorted q = .err (.invalidQuantile q)) ∧
    (Quantile.ciSortedUnchecked crit conf sorted q).isPanic = false ∧
    (∀ i, Quantile.ciSortedUnchecked crit conf sorted q = .ok i →
      ∃ idx, Quantile.ciIndices crit conf sorted.length q = .ok idx ∧ Quantile.PickOk sorted idx i) ∧
    (∀ idx r x, Quantile.ciIndices crit conf sorted.length q = .ok idx → Quantile.Selects idx r →
      sorted[r]? = some x → le x x = false →
      Quantile.ciSortedUnchecked crit conf sorted q = .err .invalidInputData) ∧
    (∀ e, Quantile.ciSortedUnchecked crit conf sorted q = .err e →
      Quantile.ciIndices crit conf sorted.length q = .err e ∨
      ∃ idx, Quantile.ciIndices crit conf sorted.length q = .ok idx ∧
        ((e = .invalidInputData ∧
            ∃ r x, Quantile.Selects idx r ∧ sorted[r]? = some x ∧ le x x = false) ∨
         (e = .interval .invalidBounds ∧ ∃ lo hi a b, idx = .twoSided lo hi ∧
            sorted[lo]? = some a ∧ sorted[hi]? = some b ∧ gt a b = true))) := by
  refine ⟨Quantile.ciSortedUnchecked_of_bad_q crit conf sorted,
    Quantile.ciSortedUnchecked_isPanic crit conf sorted q hq,
    fun _ h => Quantile.ciSortedUnchecked_eq_ok h,
    fun _ _ _ hidx hr hx hxx => Quantile.ciSortedUnchecked_of_incomparable hidx hr hx hxx,
    fun e h => ?_⟩
  rw [Quantile.ciSortedUnchecked_eq] at h
  split at h <;> rename_i hq'
  · rcases Outcome.bind_eq_err_iff.mp h with h | ⟨idx, hidx, h⟩
    · exact Or.inl h
    · exact Or.inr ⟨idx, hidx, Quantile.pick_eq_err h⟩
  · cases h
    exact Or.inl (Quantile.ciIndices_of_bad_q crit conf _ (Bool.eq_false_iff.mpr hq'))

/-- the pre-sorted entry point checks what it selects: on every element type, for every slice
    (sorted or not, with or without incomparable elements), every critical-value oracle, confidence
    and quantile, a bound of an `Ok` of `ci_sorted_unchecked` is comparable with itself. (No
    hypothesis at all: `Quantile.SelfCmp` spelled out in the last three conjuncts.) -/
theorem sorted_unchecked_ok_selfCmp {T : Type} [Cmp T] (crit : Crit W) (conf : Confidence W)
    (xs : List T) (q : W) (iv : Interval T)
    (h : Quantile.ciSortedUnchecked crit conf xs q = .ok iv) :
    Quantile.SelfCmp iv ∧
    (∀ a b, iv = .twoSided a b → le a a = true ∧ le b b = true) ∧
    (∀ a, iv = .upper a → le a a = true) ∧ (∀ b, iv = .lower b → le b b = true) := by
  have hs := Quantile.ciSortedUnchecked_ok_selfCmp h
  refine ⟨hs, ?_, ?_, ?_⟩
  · rintro a b rfl; exact hs
  · rintro a rfl; exact hs
  · rintro b rfl; exact hs

/-- `quantile::ci` panics only through the sort: at least two elements, one of them not comparable
    with itself (`partial_cmp(..).unwrap()` on a NaN) -/
theorem quantile_ci_panic_iff {T : Type} [Cmp T] (crit : Crit W) (conf : Confidence W)
    (hq : probOk conf.quantile = true) (xs : List T) (q : W) :
    (Quantile.ci crit conf xs q).isPanic = true ↔ 2 ≤ xs.length ∧ ∃ x ∈ xs, le x x = false := by
  rw [← Quantile.sortData_isPanic_iff (W := W)]
  unfold Quantile.ci
  cases hs : (Quantile.sortData xs : Outcome (Err W) (List T)) with
  | ok ys => simp [Quantile.ciSortedUnchecked_isPanic crit conf ys q hq]
  | err e => simp
  | panic t => simp

/-- `ci_max_size` additionally panics when the data exceed the capacity -/
theorem ciMaxSize_panic_iff {T : Type} [Cmp T] (cap : Nat) (crit : Crit W) (conf : Confidence W)
    (hq : probOk conf.quantile = true) (xs : List T) (q : W) :
    (Quantile.ciMaxSize cap crit conf xs q).isPanic = true ↔
      cap < xs.length ∨ (2 ≤ xs.length ∧ ∃ x ∈ xs, le x x = false) := by
  unfold Quantile.ciMaxSize
  split <;> rename_i h
  · exact ⟨fun _ => Or.inl h, fun _ => rfl⟩
  · rw [quantile_ci_panic_iff crit conf hq]
    exact ⟨Or.inr, fun k => k.resolve_left h⟩

/-- on comparable data both are total, and a quantile outside `(0,1)` is `InvalidQuantile` -/
theorem quantile_ci_total {T : Type} [Cmp T] (crit : Crit W) (conf : Confidence W)
    (hq : probOk conf.quantile = true) (xs : List T) (q : W) (hx : ∀ x ∈ xs, le x x = true) :
    (Quantile.ci crit conf xs q).isPanic = false ∧
    (∀ cap, xs.length ≤ cap → (Quantile.ciMaxSize cap crit conf xs q).isPanic = false) ∧
    ((gt q (zero : W) && lt q (one : W)) = false →
      Quantile.ci crit conf xs q = .err (.invalidQuantile q)) := by
  have hnp : (Quantile.ci crit conf xs q).isPanic = false := by
    rw [Bool.eq_false_iff]
    intro hp
    obtain ⟨_, x, hxm, hxx⟩ := (quantile_ci_panic_iff crit conf hq xs q).mp hp
    rw [hx x hxm] at hxx; cases hxx
  refine ⟨hnp, fun cap hcap => ?_, fun hbad => ?_⟩
  · unfold Quantile.ciMaxSize
    rw [if_neg (Nat.not_lt.mpr hcap)]; exact hnp
  · unfold Quantile.ci
    cases hs : (Quantile.sortData xs : Outcome (Err W) (List T)) with
    | ok ys => exact Quantile.ciSortedUnchecked_of_bad_q crit conf ys hbad
    | err e => exact absurd hs (Quantile.sortData_ne_err xs e)
    | panic t => rw [Quantile.ci, hs] at hnp; cases hnp

example : ∀ x ∈ ([XR.fin 1, XR.pinf, XR.ninf] : List XR), le x x = true := by
  intro x hx; simp at hx; rcases hx with rfl | rfl | rfl <;> simp

end quantile

/-! ## (ii) on `XR`: error classes of special inputs -/

/-- a NaN or an infinity anywhere in at least two observations: `InvalidInputData`. (The special
    value reaches the Kahan sum, the sum stays non-finite, so does the mean, and the guard fires.) -/
theorem arith_nonfinite_data (crit : Crit XR) (conf : Confidence XR) (xs : List XR)
    (hn : 2 ≤ xs.length) (h : ∃ x ∈ xs, isFinite x = false) :
    Arith.ci crit conf xs = .err .invalidInputData := by
  unfold Arith.ci
  refine Arith.ciMean_of_nonfinite crit _ conf (by rw [Arith.fromList_count]; exact hn) (Or.inl ?_)
  exact XR.arith_mean_nonfinite _ (XR.arith_extend_nonfinite _ xs (Or.inr h))

example : 2 ≤ ([XR.fin 1, XR.nan, XR.fin 3] : List XR).length ∧
    ∃ x ∈ ([XR.fin 1, XR.nan, XR.fin 3] : List XR), isFinite x = false :=
  ⟨by simp, XR.nan, by simp, rfl⟩

/-- what `x ≤ 0` means on `XR`: `−∞` and the finite non-positive numbers (a NaN is *not* caught by
    this guard — it is caught as `InvalidInputData` by the arithmetic guard on the transformed data) -/
theorem nonpositive_iff (x : XR) :
    le x (zero : XR) = true ↔ x = .ninf ∨ ∃ r : ℝ, x = .fin r ∧ r ≤ 0 := by
  cases x <;> simp

/-- zero, a negative number or `−∞` in otherwise positive data: `NonPositiveValue` of that element,
    for the geometric and the harmonic mean -/
theorem nonpositive_data (crit : Crit XR) (conf : Confidence XR) (pre post : List XR) (x : XR)
    (hpre : ∀ y ∈ pre, le y (zero : XR) = false) (hx : x = .ninf ∨ ∃ r : ℝ, x = .fin r ∧ r ≤ 0) :
    Geometric.ci crit conf (pre ++ x :: post) = .err (.nonPositiveValue x) ∧
    Harmonic.ci crit conf (pre ++ x :: post) = .err (.nonPositiveValue x) :=
  ⟨Geometric.ci_of_nonpos crit conf pre x post hpre ((nonpositive_iff x).mpr hx),
    Harmonic.ci_of_nonpos crit conf pre x post hpre ((nonpositive_iff x).mpr hx)⟩

example : (∀ y ∈ ([XR.fin 2] : List XR), le y (zero : XR) = false) ∧
    ((XR.fin 0 : XR) = .ninf ∨ ∃ r : ℝ, (XR.fin 0 : XR) = .fin r ∧ r ≤ 0) :=
  ⟨by intro y hy; simp at hy; subst hy; simp, Or.inr ⟨0, rfl, le_rfl⟩⟩

/-- a NaN quantile (and `±∞`, and anything outside `(0,1)`) is `InvalidQuantile`, for the index
    computation and for the slice entry point -/
theorem nan_quantile (crit : Crit XR) (conf : Confidence XR) (n : Nat) (sorted : List XR) :
    Quantile.ciIndices crit conf n XR.nan = .err (.invalidQuantile XR.nan) ∧
    Quantile.ciSortedUnchecked crit conf sorted XR.nan = .err (.invalidQuantile XR.nan) ∧
    Quantile.ciIndices crit conf n XR.pinf = .err (.invalidQuantile XR.pinf) ∧
    Quantile.ciIndices crit conf n XR.ninf = .err (.invalidQuantile XR.ninf) ∧
    (∀ r : ℝ, r ≤ 0 ∨ 1 ≤ r →
      Quantile.ciIndices crit conf n (XR.fin r) = .err (.invalidQuantile (XR.fin r))) :=
  ⟨Quantile.ciIndices_of_bad_q crit conf n rfl,
    Quantile.ciSortedUnchecked_of_bad_q crit conf sorted rfl,
    Quantile.ciIndices_of_bad_q crit conf n rfl,
    Quantile.ciIndices_of_bad_q crit conf n rfl,
    fun _ hr => Quantile.ciIndices_of_bad_q crit conf n (XR.validLevel_fin_eq_false hr)⟩

/-- more successes than observations: `InvalidSuccesses`, on every carrier and for both methods -/
theorem invalid_successes {W : Type} [Scalar W] (crit : Crit W) (conf : Confidence W) (n k : Nat)
    (h : n < k) :
    Proportion.ciWilson crit conf n k = .err (.invalidSuccesses k n) ∧
    Proportion.ciZNormal crit conf n k = .err (.invalidSuccesses k n) := by
  constructor
  · rw [Proportion.ciWilson_eq, if_pos h]
  · rw [Proportion.ciZNormal_eq, if_pos h]

/-! ## (ii) on `XR`: no `Ok` with a NaN bound -/

/-- With an external quantile routine that answers finite numbers, no entry point returns `Ok` with
    a NaN bound on `XR`. For the arithmetic mean, the comparisons, the geometric mean and the
    proportion intervals all bounds are finite and `lo ≤ hi` (`XR.FinIv`); for the harmonic mean a
    bound can be `+∞` (a reciprocal-space bound that is not strictly positive is read as `+∞`); for
    the quantile entry points the bounds are data elements, and NaN has been rejected by the sort
    resp. by the self-comparison check. -/
theorem ok_never_nan (crit : Crit XR) (conf : Confidence XR)
    (hc : ∀ r, isFinite (crit r) = true) (i : Interval XR) :
    (∀ a : Arith XR, Arith.ciMean crit a conf = .ok i → XR.FinIv i) ∧
    (∀ xs : List XR, Arith.ci crit conf xs = .ok i → XR.FinIv i) ∧
    (∀ as bs : List XR, Paired.ci crit conf as bs = .ok i → XR.FinIv i) ∧
    (∀ u : Unpaired XR, Unpaired.ciMean crit u conf = .ok i → XR.FinIv i) ∧
    (∀ g : Geometric XR, Geometric.ciMean crit g conf = .ok i → XR.FinIv i) ∧
    (∀ xs : List XR, Geometric.ci crit conf xs = .ok i → XR.FinIv i) ∧
    (∀ g : Harmonic XR, Harmonic.ciMean crit g conf = .ok i → XR.NoNaN i) ∧
    (∀ xs : List XR, Harmonic.ci crit conf xs = .ok i → XR.NoNaN i) ∧
    (∀ n k : Nat, Proportion.ciWilson crit conf n k = .ok i → XR.FinIv i) ∧
    (∀ n k : Nat, Proportion.ciZNormal crit conf n k = .ok i → XR.FinIv i) ∧
    (∀ (n : Nat) (rate : XR), Proportion.ciWilsonRatio crit conf n rate = .ok i → XR.FinIv i) ∧
    (∀ (xs : List XR) (q : XR), Quantile.ci crit conf xs q = .ok i → XR.NoNaN i) ∧
    (∀ (cap : Nat) (xs : List XR) (q : XR), Quantile.ciMaxSize cap crit conf xs q = .ok i →
      XR.NoNaN i) ∧
    (∀ (xs : List XR) (q : XR), Quantile.ciSortedUnchecked crit conf xs q = .ok i → XR.NoNaN i) := by
  have unit : (∃ a b : ℝ, i = .twoSided (.fin a) (.fin b) ∧ 0 ≤ a ∧ a ≤ b ∧ b ≤ 1) → XR.FinIv i := by
    rintro ⟨a, b, rfl, _, hab, _⟩
    exact ⟨a, b, rfl, rfl, hab⟩
  refine ⟨fun a h => XR.arith_ciMean_ok_finIv crit a conf hc h,
    fun xs h => XR.arith_ciMean_ok_finIv crit _ conf hc h, fun as bs h => ?_,
    fun u h => ?_,
    fun g h => XR.geometric_ciMean_ok_finIv crit g conf hc h, fun xs h => ?_,
    fun g h => (XR.harmonic_ciMean_ok_posIv crit g conf hc h).noNaN, fun xs h => ?_,
    fun n k h => unit (XR.ciWilson_ok_unit crit conf n k h),
    fun n k h => XR.ciZNormal_ok_finIv crit conf n k hc h,
    fun n rate h => unit (XR.ciWilsonRatio_ok_unit crit conf n rate h),
    fun xs q h => XR.quantile_ci_ok_noNaN crit conf xs q h, fun cap xs q h => ?_,
    fun xs q h => XR.ciSortedUnchecked_ok_noNaN crit conf xs q h⟩
  · by_cases hl : as.length = bs.length
    · rw [Paired.ci_of_length_eq crit conf hl] at h
      exact XR.arith_ciMean_ok_finIv crit _ conf hc h
    · rw [Paired.ci_of_length_ne crit conf hl] at h; cases h
  · obtain ⟨lo, hi, rfl, hle⟩ := XR.unpaired_ciMean_ok_fin crit u conf hc h
    exact XR.finIv_shapeOf hle
  · unfold Geometric.ci at h
    obtain ⟨g, _, h⟩ := Outcome.bind_eq_ok_iff.mp h
    exact XR.geometric_ciMean_ok_finIv crit g conf hc h
  · unfold Harmonic.ci at h
    obtain ⟨g, _, h⟩ := Outcome.bind_eq_ok_iff.mp h
    exact (XR.harmonic_ciMean_ok_posIv crit g conf hc h).noNaN
  · unfold Quantile.ciMaxSize at h
    split at h
    · cases h
    · exact XR.quantile_ci_ok_noNaN crit conf xs q h

example : ∀ r, isFinite ((fun _ => XR.fin 1.96 : Crit XR) r) = true := fun _ => rfl

/-- Sharper than `ok_never_nan` for the harmonic mean: with finite critical values, every bound of
    every `Ok` of `Harmonic::ci_mean` / `Harmonic::ci` on `XR` is either `+∞` or a strictly positive
    finite number (it is `1/r` for a finite reciprocal-space bound `r > 0`, and `+∞` when `r ≤ 0`);
    in particular it is not NaN, not `−∞`, not zero and not negative — whatever the kind of the
    confidence. The last three conjuncts spell out `XR.PosIv`. -/
theorem harmonic_bounds_positive_XR (crit : Crit XR) (conf : Confidence XR)
    (hc : ∀ r, isFinite (crit r) = true) (i : Interval XR) :
    (∀ g : Harmonic XR, Harmonic.ciMean crit g conf = .ok i → XR.PosIv i ∧ XR.NoNaN i) ∧
    (∀ xs : List XR, Harmonic.ci crit conf xs = .ok i → XR.PosIv i ∧ XR.NoNaN i) ∧
    (∀ lo hi : XR, XR.PosIv (.twoSided lo hi) ↔
      (lo = .pinf ∨ ∃ r : ℝ, lo = .fin r ∧ 0 < r) ∧ (hi = .pinf ∨ ∃ r : ℝ, hi = .fin r ∧ 0 < r)) ∧
    (∀ lo : XR, XR.PosIv (.upper lo) ↔ (lo = .pinf ∨ ∃ r : ℝ, lo = .fin r ∧ 0 < r)) ∧
    (∀ hi : XR, XR.PosIv (.lower hi) ↔ (hi = .pinf ∨ ∃ r : ℝ, hi = .fin r ∧ 0 < r)) := by
  refine ⟨fun g h => ?_, fun xs h => ?_, fun _ _ => Iff.rfl, fun _ => Iff.rfl, fun _ => Iff.rfl⟩
  · have := XR.harmonic_ciMean_ok_posIv crit g conf hc h
    exact ⟨this, this.noNaN⟩
  · unfold Harmonic.ci at h
    obtain ⟨g, _, h⟩ := Outcome.bind_eq_ok_iff.mp h
    have := XR.harmonic_ciMean_ok_posIv crit g conf hc h
    exact ⟨this, this.noNaN⟩

/-- the hypotheses are satisfiable, and `+∞` does occur: reciprocals `1, 2`, critical value `100`;
    the reciprocal-space interval `[-97/2, 103/2]` reaches below zero, the harmonic interval is
    `[2/103, +∞]` -/
example : (∀ r, isFinite ((fun _ => XR.fin 100 : Crit XR) r) = true) ∧ ∃ r : ℝ, 0 < r ∧
    Harmonic.ciMean (fun _ => XR.fin 100 : Crit XR) ⟨Examples.r12⟩ (.twoSided (XR.fin 0.95)) =
      .ok (.twoSided (XR.fin r) XR.pinf) :=
  ⟨fun _ => rfl, Examples.harmonic_ok_pinf⟩

/-- finiteness of the external answer is needed: were `inverse_cdf` to answer NaN, every state that
    passes the guards would come back as `Ok([NaN, NaN])` (IEEE: `NaN > NaN` is false, so
    `Interval::new` accepts) -/
theorem nan_crit_gives_ok_nan (a : Arith XR) (l : XR) (h2 : 2 ≤ a.count)
    (hm : isFinite a.mean = true) (hs : isFinite a.stdDev = true)
    (hq : probOk (Confidence.twoSided l).quantile = true) :
    Arith.ciMean (fun _ => XR.nan) a (.twoSided l) = .ok (.twoSided XR.nan XR.nan) := by
  refine Arith.ciMean_eq_ok_iff.mpr ⟨h2, hm, hs, fun _ => LawfulCount.pred_pos _ h2, hq, ?_⟩
  simp [MeanLemmas.Prep.lo, MeanLemmas.Prep.hi, intervalOfKind, Interval.new, liftI]

example : ∃ a : Arith XR, 2 ≤ a.count ∧ isFinite a.mean = true ∧ isFinite a.stdDev = true :=
  ⟨Examples.r12, le_rfl, Examples.r12_finite⟩

/-! ### the clamp of `ci_wilson`: every `Ok` lies inside `[0, 1]` -/

/-- On `XR`, for *every* critical-value oracle — finite, infinite or NaN answers alike — every `Ok`
    of `ci_wilson`, of its wrappers (`proportion::ci`, `Stats::ci`, `ci_true`, `ci_if`) and of
    `ci_wilson_ratio` is a two-sided interval whose bounds are finite numbers (so never NaN) with
    `0 ≤ lo ≤ hi ≤ 1`. (`low = x.max(0.)` is `+∞` or finite `≥ 0` whatever `x` is, `high = y.min(1.)`
    is `−∞` or finite `≤ 1`, and `Interval::new` rejects `low > high`.) -/
theorem wilson_ok_unit_XR (crit : Crit XR) (conf : Confidence XR) (i : Interval XR) :
    (∀ n k : Nat, Proportion.ciWilson crit conf n k = .ok i →
      ∃ a b : ℝ, i = .twoSided (.fin a) (.fin b) ∧ 0 ≤ a ∧ a ≤ b ∧ b ≤ 1) ∧
    (∀ n k : Nat, Proportion.ci crit conf n k = .ok i →
      ∃ a b : ℝ, i = .twoSided (.fin a) (.fin b) ∧ 0 ≤ a ∧ a ≤ b ∧ b ≤ 1) ∧
    (∀ st : Proportion.Stats, st.ci crit conf = .ok i →
      ∃ a b : ℝ, i = .twoSided (.fin a) (.fin b) ∧ 0 ≤ a ∧ a ≤ b ∧ b ≤ 1) ∧
    (∀ bs : List Bool, Proportion.ciTrue crit conf bs = .ok i →
      ∃ a b : ℝ, i = .twoSided (.fin a) (.fin b) ∧ 0 ≤ a ∧ a ≤ b ∧ b ≤ 1) ∧
    (∀ (T : Type) (xs : List T) (p : T → Bool), Proportion.ciIf crit conf xs p = .ok i →
      ∃ a b : ℝ, i = .twoSided (.fin a) (.fin b) ∧ 0 ≤ a ∧ a ≤ b ∧ b ≤ 1) ∧
    (∀ (n : Nat) (rate : XR), Proportion.ciWilsonRatio crit conf n rate = .ok i →
      ∃ a b : ℝ, i = .twoSided (.fin a) (.fin b) ∧ 0 ≤ a ∧ a ≤ b ∧ b ≤ 1) :=
  ⟨fun n k h => XR.ciWilson_ok_unit crit conf n k h, fun n k h => XR.ciWilson_ok_unit crit conf n k h,
    fun _ h => XR.ciWilson_ok_unit crit conf _ _ h, fun _ h => XR.ciWilson_ok_unit crit conf _ _ h,
    fun _ _ _ h => XR.ciWilson_ok_unit crit conf _ _ h,
    fun n rate h => XR.ciWilsonRatio_ok_unit crit conf n rate h⟩

/-- the premise is satisfiable with a finite critical value (five successes in ten, `z = 0`:
    `Ok([1/2, 1/2])`) and with a NaN one (`Ok([0, 1])`) -/
example :
    Proportion.ciWilson (fun _ => XR.fin 0) (.twoSided (XR.fin 0.95)) 10 5 =
      .ok (.twoSided (XR.fin (1/2)) (XR.fin (1/2))) ∧
    Proportion.ciWilson (fun _ => XR.nan) (.twoSided (XR.fin 0.95)) 10 5 =
      .ok (.twoSided (XR.fin 0) (XR.fin 1)) :=
  ⟨Examples.wilson_ok_XR, Examples.wilson_nan_crit_ok⟩

/-- In contrast to `nan_crit_gives_ok_nan`: were `inverse_cdf` to answer NaN, `ci_wilson` past its
    guards returns `Ok([0, 1])` — the trivial but valid proportion interval — for every kind of
    confidence (both Wilson numbers are NaN; `NaN.max(0.) = 0`, `NaN.min(1.) = 1`). -/
theorem wilson_nan_crit_XR (conf : Confidence XR) (n k : Nat) (h1 : k ≤ n) (h2 : 2 ≤ k)
    (h3 : 2 ≤ n - k) (hq : probOk conf.quantile = true) :
    Proportion.ciWilson (fun _ => XR.nan) conf n k = .ok (.twoSided (XR.fin 0) (XR.fin 1)) :=
  XR.ciWilson_nan_crit conf h1 h2 h3 hq

example : (5 : Nat) ≤ 10 ∧ 2 ≤ 5 ∧ 2 ≤ 10 - 5 ∧
    probOk (Confidence.twoSided (XR.fin 0.95)).quantile = true :=
  ⟨by norm_num, by norm_num, by norm_num, Examples.conf95_probOk_XR⟩

/-- On `XR` the `InvalidBounds` error of `ci_wilson` is never an artefact of a NaN: it is a genuine
    `low > high` between two numbers that are not NaN, with `0 ≤ low` and `high ≤ 1` as IEEE
    comparisons (`low` may be `+∞`, `high` may be `−∞`). -/
theorem wilson_invalidBounds_XR (crit : Crit XR) (conf : Confidence XR) (n k : Nat)
    (h : Proportion.ciWilson crit conf n k = .err (.interval .invalidBounds)) :
    ∃ lo hi : XR, lt hi lo = true ∧ lo ≠ .nan ∧ hi ≠ .nan ∧
      le (XR.fin 0) lo = true ∧ le hi (XR.fin 1) = true := by
  obtain ⟨_, _, _, _, hg⟩ := Proportion.ciWilson_eq_invalidBounds h
  refine ⟨_, _, hg, ?_⟩
  obtain ⟨hlo, hhi⟩ := XR.wilsonEnds_cases conf
    (Proportion.wilsonCentre (Scalar.ofNat n) (Scalar.ofNat k) (crit (.z conf.quantile)))
    (Proportion.wilsonSpan (Scalar.ofNat n) (Scalar.ofNat k) (crit (.z conf.quantile)))
  rcases hlo with hlo | ⟨a, hlo, ha⟩ <;> rcases hhi with hhi | ⟨b, hhi, hb⟩ <;> rw [hlo, hhi]
  · simp
  · simp [hb]
  · simp [ha]
  · simp [ha, hb]

/-- The one-sided arms clamp the finite bound on both sides (`low.min(1.)` / `high.max(0.)`), so a
    *one-sided* `ci_wilson` never answers `InvalidBounds` on `XR` — whatever the counts and whatever
    the critical value (negative, infinite, NaN). Without the second clamp
    `ci(new_upper(1e-300), 2^53, 2^53 − 3)` gives that error: the finite bound is the *other* root for
    a negative critical value and rounds past 1. -/
theorem wilson_one_sided_never_invalidBounds_XR (crit : Crit XR) (conf : Confidence XR) (n k : Nat)
    (hk : conf.kind ≠ .twoSided) :
    Proportion.ciWilson crit conf n k ≠ .err (.interval .invalidBounds) := by
  intro h
  obtain ⟨_, _, _, _, hg⟩ := Proportion.ciWilson_eq_invalidBounds h
  obtain ⟨a, b, he, hab⟩ := XR.wilsonEnds_oneSided conf
    (Proportion.wilsonCentre (Scalar.ofNat n) (Scalar.ofNat k) (crit (.z conf.quantile)))
    (Proportion.wilsonSpan (Scalar.ofNat n) (Scalar.ofNat k) (crit (.z conf.quantile))) hk
  rw [he] at hg
  simp [not_lt.mpr hab] at hg

example : (Confidence.upper (XR.fin 0.3)).kind ≠ .twoSided := by simp [Confidence.kind]

/-- the premise is satisfiable: a negative critical value (`z = −1`, five successes in ten) makes the
    span negative, `low = centre + |span| > centre − |span| = high` -/
example : Proportion.ciWilson (fun _ => XR.fin (-1)) (.twoSided (XR.fin 0.95)) 10 5 =
    .err (.interval .invalidBounds) := Examples.wilson_invalidBounds_XR

/-- The same on the reals with an arbitrary rounding function `fl` applied after every arithmetic
    operation (`max`/`min` themselves do not round) and an arbitrary critical-value oracle: every
    `Ok` of `ci_wilson` is two-sided with `0 ≤ lo ≤ hi ≤ 1` — rounding error in the Wilson numbers
    cannot push a bound outside `[0, 1]`. -/
theorem wilson_ok_unit_RR (fl : ℝ → ℝ) (crit : Crit (RR fl)) (conf : Confidence (RR fl)) (n k : Nat)
    (i : Interval (RR fl)) (h : Proportion.ciWilson crit conf n k = .ok i) :
    ∃ lo hi : RR fl, i = .twoSided lo hi ∧ 0 ≤ lo.val ∧ lo.val ≤ hi.val ∧ hi.val ≤ 1 :=
  WilsonRound.ciWilson_ok_unit crit conf n k i h

/-- the premise is satisfiable (exact arithmetic, five successes in ten, `z = 0`) -/
example : ∃ i : Interval Rex,
    Proportion.ciWilson (constCrit 0 : Crit Rex) (.twoSided (inj 0.95)) 10 5 = .ok i :=
  Examples.wilson_ok_Rex

/-! ### the pre-sorted entry point `ci_sorted_unchecked` on `XR` -/

/-- On `XR`, for *any* slice — sorted or not, with or without NaN —, any critical-value oracle, any
    confidence and any quantile: an `Ok` of `ci_sorted_unchecked` never has a NaN bound. (No hypothesis
    on `crit`, on `conf` or on the data; `XR.NoNaN` spelled out in the last three conjuncts.) -/
theorem sorted_unchecked_ok_never_nan (crit : Crit XR) (conf : Confidence XR) (xs : List XR) (q : XR)
    (iv : Interval XR) (h : Quantile.ciSortedUnchecked crit conf xs q = .ok iv) :
    XR.NoNaN iv ∧
    (∀ a b, iv = .twoSided a b → a ≠ .nan ∧ b ≠ .nan) ∧
    (∀ a, iv = .upper a → a ≠ .nan) ∧ (∀ b, iv = .lower b → b ≠ .nan) := by
  have hs := XR.ciSortedUnchecked_ok_noNaN crit conf xs q h
  refine ⟨hs, ?_, ?_, ?_⟩
  · rintro a b rfl; exact hs
  · rintro a rfl; exact hs
  · rintro b rfl; exact hs

/-- the premise is satisfiable, on a slice that is neither sorted nor free of NaN: ten observations
    with a NaN at rank 0, both selected ranks are 5 -/
example : Quantile.ciSortedUnchecked (fun _ => XR.fin 0) (.twoSided (XR.fin 0.95))
    [XR.nan, XR.fin 9, XR.fin 2, XR.fin 3, XR.fin 4, XR.fin 5, XR.fin 6, XR.fin 7, XR.fin 8, XR.fin 1]
    (XR.fin 0.5) = .ok (.twoSided (XR.fin 5) (XR.fin 5)) := Examples.sortedUnchecked_ok_XR

/-- the same instance for the carrier-independent form `sorted_unchecked_ok_selfCmp` -/
example : ∃ iv : Interval XR,
    Quantile.ciSortedUnchecked (fun _ => XR.fin 0) (.twoSided (XR.fin 0.95)) Examples.xsNanOff
      (XR.fin 0.5) = .ok iv := ⟨_, Examples.sortedUnchecked_ok_XR⟩

/-- a NaN at a selected rank is `InvalidInputData`, never an `Ok` with a NaN bound: whenever the
    index computation succeeds and the slice holds a NaN at one of the ranks it selects -/
theorem sorted_unchecked_rejects_nan (crit : Crit XR) (conf : Confidence XR) (q : XR) (xs : List XR)
    (idx : Interval Nat) (r : Nat)
    (h : Quantile.ciIndices crit conf xs.length q = .ok idx) (hr : Quantile.Selects idx r)
    (hx : xs[r]? = some XR.nan) :
    Quantile.ciSortedUnchecked crit conf xs q = .err .invalidInputData :=
  Quantile.ciSortedUnchecked_of_incomparable h hr hx (by simp)

/-- the premises are satisfiable: ten observations with a NaN at rank 5, the median; the ranks
    selected are 5 and 5 -/
example : Quantile.ciSortedUnchecked (fun _ => XR.fin 0) (.twoSided (XR.fin 0.95))
    [XR.fin 0, XR.fin 1, XR.fin 2, XR.fin 3, XR.fin 4, XR.nan, XR.fin 6, XR.fin 7, XR.fin 8, XR.fin 9]
    (XR.fin 0.5) = .err .invalidInputData := Examples.sortedUnchecked_nan_XR

example : Quantile.ciIndices (fun _ => XR.fin 0) (.twoSided (XR.fin 0.95)) Examples.xsNanAt.length
      (XR.fin 0.5) = .ok (.twoSided 5 5) ∧ Quantile.Selects (.twoSided 5 5) 5 ∧
    Examples.xsNanAt[5]? = some XR.nan := ⟨Examples.ciIndices_ok, Or.inl rfl, rfl⟩

/-- in particular a slice of NaNs is `InvalidInputData` whenever the index computation succeeds,
    for every kind of confidence -/
theorem sorted_unchecked_rejects_nan_slice (crit : Crit XR) (conf : Confidence XR) (q : XR) (n : Nat)
    (idx : Interval Nat) (h : Quantile.ciIndices crit conf n q = .ok idx) :
    Quantile.ciSortedUnchecked crit conf (List.replicate n XR.nan) q = .err .invalidInputData := by
  obtain ⟨_, hn, hok⟩ := Quantile.ciIndices_eq_ok h
  have h' : Quantile.ciIndices crit conf (List.replicate n XR.nan).length q = .ok idx := by
    rw [List.length_replicate]; exact h
  obtain ⟨r, hr⟩ : ∃ r, Quantile.Selects idx r := by
    cases idx
    · exact ⟨_, Or.inl rfl⟩
    · exact ⟨_, rfl⟩
    · exact ⟨_, rfl⟩
  exact sorted_unchecked_rejects_nan crit conf q _ idx r h' hr
    (by rw [List.getElem?_replicate, if_pos (hok.selects_lt (by omega) hr)])

/-- the hypothesis is satisfiable: ten observations, the median -/
example : Quantile.ciIndices (fun _ => XR.fin 0) (.twoSided (XR.fin 0.95)) 10 (XR.fin 0.5) =
    .ok (.twoSided 5 5) := Examples.ciIndices_ok

end StatsCI.C11
