/-
  C16 — Equivariance under scaling, negation, shift and reordering.

  Items 1, 2, 5 are over `RR fl` for *every* rounding function `fl` satisfying the stated
  commutation hypothesis (`fl (a·x) = a·fl x`: true in IEEE arithmetic for `a = 2^e` away from
  overflow/underflow; `fl (-x) = -fl x`: true in IEEE round-to-nearest). Items 3, 4 are at exact
  arithmetic `Rex = RR id`.

  Notation (`StatsCI.MeanLemmas`, file `Lemmas/MeanSym.lean`): `smul a x = ⟨a * x.val⟩` is the
  (unrounded) transformation applied to the data and to the bounds; `ksmul a k` multiplies both
  fields of a compensated register by `a`; `asmul a A` is the state with `sum` register
  multiplied by `a`, `sum_sq` register by `a²` and the same count.
-/
import StatsCI.Lemmas.MeanSym
import StatsCI.Properties.C05

namespace StatsCI.C16
open StatsCI StatsCI.MeanLemmas NumOps Scalar

section scale
variable {fl : ℝ → ℝ} {a : ℝ}

/-! ### 1. scaling by a factor that commutes with rounding -/

/-- registers: `sum`, `compensation` of the sum register are multiplied by `a`, those of the
    sum-of-squares register by `a²`; the count is unchanged. (No sign condition.) -/
theorem scale_registers (hfl : ∀ x, fl (a * x) = a * fl x) (xs : List (RR fl)) :
    (Arith.fromList (xs.map (smul a))).sum = ksmul a (Arith.fromList xs).sum ∧
    (Arith.fromList (xs.map (smul a))).sumSq = ksmul (a * a) (Arith.fromList xs).sumSq ∧
    (Arith.fromList (xs.map (smul a))).count = (Arith.fromList xs).count := by
  rw [Arith.fromList_smul hfl]
  exact ⟨rfl, rfl, rfl⟩

/-- the same for data fed into an arbitrary state -/
theorem scale_extend (hfl : ∀ x, fl (a * x) = a * fl x) (A : Arith (RR fl)) (xs : List (RR fl)) :
    (asmul a A).extend (xs.map (smul a)) = asmul a (A.extend xs) :=
  Arith.extend_smul hfl A xs

/-- `mean` is multiplied by `a`, `variance` by `a²`, `std_dev` by `a`; the sign condition is used
    for `std_dev` only (`√(a²·v) = |a|·√v`) -/
theorem scale_stats (ha : 0 < a) (hfl : ∀ x, fl (a * x) = a * fl x) (xs : List (RR fl)) :
    (Arith.fromList (xs.map (smul a))).mean = smul a (Arith.fromList xs).mean ∧
    (Arith.fromList (xs.map (smul a))).variance = smul (a * a) (Arith.fromList xs).variance ∧
    (Arith.fromList (xs.map (smul a))).stdDev = smul a (Arith.fromList xs).stdDev := by
  rw [Arith.fromList_smul hfl]
  refine ⟨Arith.mean_smul hfl _, Arith.variance_smul hfl _, ?_⟩
  have := Arith.stdDev_smul hfl (habs_of_pos ha hfl) (Arith.fromList xs)
  rwa [abs_of_pos ha] at this

/-- every bound of `Arithmetic::ci` is multiplied by exactly `a`; the kind, the errors and the
    panics are unchanged (the critical value request is the same: same `n`, same level) -/
theorem scale_exact (ha : 0 < a) (hfl : ∀ x, fl (a * x) = a * fl x) (crit : Crit (RR fl))
    (conf : Confidence (RR fl)) (xs : List (RR fl)) :
    Arith.ci crit conf (xs.map (smul a)) =
      (Arith.ci crit conf xs).map (Interval.map (smul a)) :=
  Arith.ci_scale ha hfl crit conf xs

/-- the hypothesis on `fl` at `a` gives it at `a·a` (and, applied again, at `a⁴`: one hypothesis
    covers the factors of the `sum_sq` register and of the degrees of freedom) -/
theorem scale_hyp_sq (hfl : ∀ x, fl (a * x) = a * fl x) : ∀ x, fl (a * a * x) = a * a * fl x :=
  hfl_sq hfl

/-- non-vacuity: exact arithmetic with `a = 2` -/
example : (0 : ℝ) < 2 ∧ ∀ x : ℝ, (id : ℝ → ℝ) (2 * x) = 2 * id x := ⟨by norm_num, fun _ => rfl⟩

/-! ### 2. negation under odd rounding -/

/-- negating the data negates both fields of the sum register, leaves the sum-of-squares register
    unchanged, negates the mean and keeps the variance -/
theorem negate_stats (hodd : ∀ x, fl (-x) = -fl x) (xs : List (RR fl)) :
    (Arith.fromList (xs.map NumOps.neg)).sum = ksmul (-1) (Arith.fromList xs).sum ∧
    (Arith.fromList (xs.map NumOps.neg)).sumSq = (Arith.fromList xs).sumSq ∧
    (Arith.fromList (xs.map NumOps.neg)).count = (Arith.fromList xs).count ∧
    (Arith.fromList (xs.map NumOps.neg)).mean = NumOps.neg (Arith.fromList xs).mean ∧
    (Arith.fromList (xs.map NumOps.neg)).variance = (Arith.fromList xs).variance ∧
    (Arith.fromList (xs.map NumOps.neg)).stdDev = (Arith.fromList xs).stdDev := by
  have hfl := hfl_neg_one hodd
  have h11 : ((-1 : ℝ) * -1) = 1 := by norm_num
  have hv : (asmul (-1) (Arith.fromList xs)).variance = (Arith.fromList xs).variance := by
    rw [Arith.variance_smul hfl, h11, smul_one]
  rw [map_neg_eq_smul, Arith.fromList_smul hfl]
  refine ⟨rfl, ?_, rfl, ?_, hv, ?_⟩
  · show ksmul ((-1 : ℝ) * -1) (Arith.fromList xs).sumSq = _
    rw [h11, ksmul_one]
  · rw [Arith.mean_smul hfl, smul_neg_one]
  · unfold Arith.stdDev; rw [hv]

/-- `Arithmetic::ci` of the negated data at the flipped confidence is the mirrored interval:
    bounds negated and exchanged, upper ↔ lower; errors and panics unchanged -/
theorem negate_exact (hodd : ∀ x, fl (-x) = -fl x) (crit : Crit (RR fl))
    (conf : Confidence (RR fl)) (xs : List (RR fl)) :
    Arith.ci crit conf.flipped (xs.map NumOps.neg) = (Arith.ci crit conf xs).map Interval.negI := by
  rw [map_neg_eq_smul, Arith.ci_smul (hfl_neg_one hodd) habs_neg_one, abs_neg, abs_one,
    finish_neg hodd, Confidence.flipped_flipped]
  rfl

/-- equivalently: the same confidence on the negated data mirrors the flipped-confidence interval -/
theorem negate_exact' (hodd : ∀ x, fl (-x) = -fl x) (crit : Crit (RR fl))
    (conf : Confidence (RR fl)) (xs : List (RR fl)) :
    Arith.ci crit conf (xs.map NumOps.neg) =
      (Arith.ci crit conf.flipped xs).map Interval.negI := by
  have := negate_exact hodd crit conf.flipped xs
  rwa [Confidence.flipped_flipped] at this

/-- non-vacuity: exact arithmetic is odd -/
example : ∀ x : ℝ, (id : ℝ → ℝ) (-x) = -(id x) := fun _ => rfl

/-! ### 5. paired and unpaired versions of 1–2 -/

/-- paired, scaling: the differences scale (`fl (a·x - a·y) = a·fl (x - y)`), hence the bounds;
    a length mismatch is reported identically -/
theorem paired_scale (ha : 0 < a) (hfl : ∀ x, fl (a * x) = a * fl x) (crit : Crit (RR fl))
    (conf : Confidence (RR fl)) (as bs : List (RR fl)) :
    Paired.ci crit conf (as.map (smul a)) (bs.map (smul a)) =
      (Paired.ci crit conf as bs).map (Interval.map (smul a)) := by
  rw [Paired.ci_eq, Paired.ci_eq, List.length_map, List.length_map, zipWith_sub_smul hfl,
    scale_exact ha hfl]
  split <;> rfl

/-- paired, negation -/
theorem paired_negate (hodd : ∀ x, fl (-x) = -fl x) (crit : Crit (RR fl))
    (conf : Confidence (RR fl)) (as bs : List (RR fl)) :
    Paired.ci crit conf.flipped (as.map NumOps.neg) (bs.map NumOps.neg) =
      (Paired.ci crit conf as bs).map Interval.negI := by
  rw [Paired.ci_eq, Paired.ci_eq, List.length_map, List.length_map, map_neg_eq_smul,
    map_neg_eq_smul, zipWith_sub_smul (hfl_neg_one hodd), ← map_neg_eq_smul, negate_exact hodd]
  split <;> rfl

/-- unpaired, scaling both samples: the mean difference and the standard error scale by `a`, the
    effective degrees of freedom are unchanged (numerator and denominator both carry `a⁴`) -/
theorem unpaired_scale (ha : 0 < a) (hfl : ∀ x, fl (a * x) = a * fl x) (crit : Crit (RR fl))
    (conf : Confidence (RR fl)) (xs ys : List (RR fl)) :
    Unpaired.ci crit conf (xs.map (smul a)) (ys.map (smul a)) =
      (Unpaired.ci crit conf xs ys).map (Interval.map (smul a)) := by
  rw [Unpaired.ci_smul ha.ne' hfl (habs_of_pos ha hfl), abs_of_pos ha, finish_scale ha hfl]
  rfl

/-- unpaired, negating both samples -/
theorem unpaired_negate (hodd : ∀ x, fl (-x) = -fl x) (crit : Crit (RR fl))
    (conf : Confidence (RR fl)) (xs ys : List (RR fl)) :
    Unpaired.ci crit conf.flipped (xs.map NumOps.neg) (ys.map NumOps.neg) =
      (Unpaired.ci crit conf xs ys).map Interval.negI := by
  rw [map_neg_eq_smul, map_neg_eq_smul,
    Unpaired.ci_smul (by norm_num) (hfl_neg_one hodd) habs_neg_one, abs_neg, abs_one,
    finish_neg hodd, Confidence.flipped_flipped]
  rfl

end scale

/-! ### 3. shift (exact arithmetic) -/

/-- adding a constant shifts the mean (`n ≥ 1`) and keeps the variance (`n ≥ 2`) -/
theorem shift_stats (xs : List ℝ) (k : ℝ) (hn : 2 ≤ xs.length) :
    (Arith.fromList ((xs.map (fun x => x + k)).map inj) : Arith Rex).mean.val =
      (Arith.fromList (xs.map inj) : Arith Rex).mean.val + k ∧
    (Arith.fromList ((xs.map (fun x => x + k)).map inj) : Arith Rex).variance.val =
      (Arith.fromList (xs.map inj) : Arith Rex).variance.val := by
  constructor
  · rw [Arith.fromList_mean, Arith.fromList_mean, smean_shift xs k (by omega)]
  · rw [Arith.fromList_variance _ (by simpa using hn), Arith.fromList_variance _ hn,
      svar_shift xs k (by omega)]

/-- adding a constant to every datum adds it to every bound (`Interval + k`); the kind, the
    errors and the panics are unchanged. No hypothesis on `n` or on the level. -/
theorem shift (crit : Crit Rex) (conf : Confidence Rex) (xs : List ℝ) (k : ℝ) :
    Arith.ci crit conf ((xs.map (fun x => x + k)).map inj) =
      (Arith.ci crit conf (xs.map inj : List Rex)).map (fun I => I.addScalar (inj k)) := by
  unfold Arith.ci
  rw [Arith.ciMean_eq_finish, Arith.ciMean_eq_finish, Arith.ciPrep_shift, finish_shift]

/-! ### 4. reordering (exact arithmetic) -/

/-- a permutation of the data leaves count, mean and variance unchanged (they are functions of
    `n`, `Σx` and `Σx²`) -/
theorem perm_stats (xs ys : List ℝ) (h : xs.Perm ys) :
    (Arith.fromList (xs.map inj) : Arith Rex).count = (Arith.fromList (ys.map inj) : Arith Rex).count ∧
    (Arith.fromList (xs.map inj) : Arith Rex).mean = (Arith.fromList (ys.map inj) : Arith Rex).mean ∧
    (Arith.fromList (xs.map inj) : Arith Rex).variance =
      (Arith.fromList (ys.map inj) : Arith Rex).variance := by
  have hl : xs.length = ys.length := h.length_eq
  have hs : xs.sum = ys.sum := h.sum_eq
  have hq : MeanRound.sumSq xs = MeanRound.sumSq ys := (h.map _).sum_eq
  have hm : smean xs = smean ys := by unfold smean; rw [hl, hs]
  refine ⟨by rw [MeanRound.fromList_count', MeanRound.fromList_count', hl],
    RR.ext' ?_, RR.ext' ?_⟩
  · rw [Arith.fromList_mean, Arith.fromList_mean, hm]
  · rw [Arith.variance_val, Arith.variance_val, Arith.fromList_rawVar, Arith.fromList_rawVar, hl, hs,
      hq, hm]

/-- … hence the interval -/
theorem perm (crit : Crit Rex) (conf : Confidence Rex) (xs ys : List ℝ) (h : xs.Perm ys) :
    Arith.ci crit conf (xs.map inj : List Rex) = Arith.ci crit conf (ys.map inj : List Rex) := by
  obtain ⟨h1, h2, h3⟩ := perm_stats xs ys h
  exact Arith.ciMean_congr crit _ _ conf h1 h2 (congrArg Scalar.sqrt h3)

/-! ### geometric and harmonic means under scaling (exact arithmetic) -/

/-- multiplying positive data by `a > 0` multiplies every bound of the geometric interval by `a`
    (`ln (a·x) = ln x + ln a`: a shift in log space, then `exp`) -/
theorem geometric_scale (crit : Crit Rex) (conf : Confidence Rex) (xs : List ℝ)
    (hpos : ∀ x ∈ xs, 0 < x) (a : ℝ) (ha : 0 < a) :
    Geometric.ci crit conf ((xs.map (fun x => a * x)).map inj) =
      (Geometric.ci crit conf (xs.map inj : List Rex)).map (Interval.map (smul a)) := by
  have hlog : (xs.map (fun x => a * x)).map Real.log =
      (xs.map Real.log).map (fun y => y + Real.log a) := by
    rw [List.map_map, List.map_map]
    refine List.map_congr_left fun x hx => ?_
    simp only [Function.comp]
    rw [Real.log_mul ha.ne' (hpos x hx).ne', add_comm]
  rw [C05.geometric _ _ _ (List.forall_mem_map.mpr fun x hx => mul_pos ha (hpos x hx)),
    C05.geometric _ _ _ hpos, hlog, shift, Outcome.map_map, Outcome.map_map]
  congr 1
  funext I
  have key : ∀ x : Rex, (Scalar.exp (add x (inj (Real.log a))) : Rex) = smul a (Scalar.exp x) := by
    intro x
    apply RR.ext'
    simp only [RR.exp_val, RR.add_val, inj_val, id_eq, smul_val, Real.exp_add, Real.exp_log ha]
    ring
  cases I <;>
    simp only [Function.comp, Interval.addScalar, Interval.appliedBoth, Interval.applied,
      Interval.map, key]

/-- and likewise of the harmonic interval (the reciprocals scale by `a⁻¹`). No hypothesis on the
    sign of the reciprocal-space bounds: scaling by `a⁻¹ > 0` does not change the branch taken by
    `Harmonic.recipBound`, `1/(a⁻¹·r) = a·(1/r)` on the positive branch, and on the other branch
    both sides carry `posInf` (at `Rex` the stand-in `⟨0⟩ = a·⟨0⟩`) -/
theorem harmonic_scale (crit : Crit Rex) (conf : Confidence Rex) (xs : List ℝ)
    (hpos : ∀ x ∈ xs, 0 < x) (a : ℝ) (ha : 0 < a) :
    Harmonic.ci crit conf ((xs.map (fun x => a * x)).map inj) =
      (Harmonic.ci crit conf (xs.map inj : List Rex)).map (Interval.map (smul a)) := by
  have hrec : (((xs.map (fun x => a * x)).map (fun x => 1 / x)).map inj : List Rex) =
      ((xs.map (fun x => 1 / x)).map inj : List Rex).map (smul a⁻¹) := by
    simp only [List.map_map]
    refine List.map_congr_left fun x _ => RR.ext' ?_
    simp only [Function.comp, inj_val, smul_val, one_div, mul_inv]
  rw [C05.harmonic_state _ _ _ (List.forall_mem_map.mpr fun x hx => mul_pos ha (hpos x hx)),
    C05.harmonic_state _ _ _ hpos, hrec, Arith.fromList_smul (fl := id) fun _ => rfl]
  exact Harmonic.ciMean_asmul_inv crit conf _ a ha

/-- non-vacuity: positive data, positive factor -/
example : (∀ x ∈ [(1 : ℝ), 3], 0 < x) ∧ (0 : ℝ) < 2 := by
  refine ⟨?_, by norm_num⟩
  simp only [List.forall_mem_cons]; norm_num

/-- non-vacuity: a non-trivial permutation -/
example : [(1 : ℝ), 2, 3].Perm [3, 1, 2] :=
  List.perm_append_comm (l₁ := [1, 2]) (l₂ := [3])

end StatsCI.C16
