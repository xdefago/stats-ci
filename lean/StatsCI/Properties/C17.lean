/-
  C17 — Shape of the Wilson proportion interval: monotone in the success count, mirror-symmetric,
  narrower on a larger population, wider at a higher level, inside [0,1], midpoint between k/n and 1/2.

  Everything is stated through the model functions `Proportion.wilsonCentre`, `Proportion.wilsonSpan`
  and `Proportion.ciWilson` of `StatsCI.Model.Proportion`, run at exact real arithmetic `Rex = RR id`.
  `lowerR n k z`, `upperR n k z`, `centreR n k z` (in `Lemmas/WilsonMono.lean`) are *by definition*
  `(wilsonCentre ⟨n⟩ ⟨k⟩ ⟨z⟩).val ∓ (wilsonSpan ⟨n⟩ ⟨k⟩ ⟨z⟩).val` and `(wilsonCentre ⟨n⟩ ⟨k⟩ ⟨z⟩).val`,
  with real `n k z` (so that the statements also cover non-integer counts); `closed_form` gives
  the usual formulas.  The `_interval` theorems are about the value `ciWilson` returns for natural
  `2 ≤ k ≤ n − 2` (outside that range the model, like the crate, returns an error).
  The external normal quantile `crit` is a parameter; the only facts used about it are explicit
  hypotheses (`0 ≤ crit …`, monotone in the probability).
-/
import StatsCI.Lemmas.WilsonMono
import Mathlib.Analysis.Convex.Basic

namespace StatsCI.C17
open StatsCI Proportion WilsonMono

/-- the model ends are the textbook Wilson roots -/
theorem closed_form (n k z : ℝ) :
    lowerR n k z = (k + z ^ 2 / 2 - z * Real.sqrt (k * (n - k) / n + z ^ 2 / 4)) / (n + z ^ 2) ∧
    upperR n k z = (k + z ^ 2 / 2 + z * Real.sqrt (k * (n - k) / n + z ^ 2 / 4)) / (n + z ^ 2) ∧
    centreR n k z = (k + z ^ 2 / 2) / (n + z ^ 2) ∧
    spanR n k z = z / (n + z ^ 2) * Real.sqrt (k * (n - k) / n + z ^ 2 / 4) :=
  ⟨lowerR_eq n k z, upperR_eq n k z, centreR_eq n k z, spanR_eq n k z⟩

/-! ### 1. monotone in the success count -/

example : lowerR 10 3 2 ≤ lowerR 10 4 2 ∧ upperR 10 3 2 ≤ upperR 10 4 2 :=
  ⟨lowerR_mono_k 10 3 4 2 (by norm_num) (by norm_num) (by norm_num) (by norm_num) (by norm_num),
   upperR_mono_k 10 3 4 2 (by norm_num) (by norm_num) (by norm_num) (by norm_num) (by norm_num)⟩

/-- both ends of the interval `ci_wilson` returns are non-decreasing in the success count, for every
    kind of confidence -/
theorem mono_k_interval (crit : Crit Rex) (conf : Confidence Rex) (n k k' : ℕ) (hk : 2 ≤ k)
    (hkk : k ≤ k') (hkn : k' + 2 ≤ n) (hv : Confidence.validLevel conf.level = true)
    (hz : 0 ≤ (crit (.z conf.quantile)).val) :
    ∃ a b a' b' : Rex, ciWilson crit conf n k = .ok (.twoSided a b) ∧
      ciWilson crit conf n k' = .ok (.twoSided a' b') ∧ a.val ≤ a'.val ∧ b.val ≤ b'.val := by
  obtain ⟨hn, _, h2⟩ := Wilson.cast_dom (by omega : 0 < n) (by omega : k' ≤ n)
  have hl := lowerR_mono_k n k k' _ hn hz (Nat.cast_nonneg k) (Nat.cast_le.mpr hkk) h2
  have hu := upperR_mono_k n k k' _ hn hz (Nat.cast_nonneg k) (Nat.cast_le.mpr hkk) h2
  rw [ciWilson_ok crit conf n k hk (by omega) hv hz,
    ciWilson_ok crit conf n k' (by omega) hkn hv hz]
  cases conf
  · exact ⟨_, _, _, _, rfl, rfl, hl, hu⟩
  · exact ⟨_, _, _, _, rfl, rfl, hl, le_rfl⟩
  · exact ⟨_, _, _, _, rfl, rfl, le_rfl, hu⟩

/-! ### 2. mirror image -/

/-- the interval for `n − k` successes is `1 −` the interval for `k`, ends exchanged -/
theorem mirror (n k z : ℝ) (hn : 0 < n) :
    lowerR n (n - k) z = 1 - upperR n k z ∧ upperR n (n - k) z = 1 - lowerR n k z :=
  ⟨lowerR_mirror n k z hn, upperR_mirror n k z hn⟩

example : lowerR 10 (10 - 3) 2 = 1 - upperR 10 3 2 := (mirror 10 3 2 (by norm_num)).1

/-- On the model function itself, with no hypothesis on the level or on the critical value: calling
    `ci_wilson` with `n − k` successes and the flipped confidence (two-sided stays two-sided, upper
    and lower one-sidedness are exchanged) gives exactly the outcome for `k` successes mapped through
    `x ↦ 1 − x` with the ends exchanged; an `.err` or the `inverse_cdf` panic is mirrored to the
    same `.err`/panic. -/
theorem mirror_interval (crit : Crit Rex) (conf : Confidence Rex) (n k : ℕ) (hk : 2 ≤ k)
    (hkn : k + 2 ≤ n) :
    ciWilson crit conf.flipped n (n - k)
      = (ciWilson crit conf n k).map (fun i => i.appliedFlipped (fun x => NumOps.sub NumOps.one x)) := by
  rw [ciWilson_dom crit conf n k hk hkn, ciWilson_dom crit conf.flipped n (n - k) (by omega) (by omega),
    Confidence.flipped_quantile]
  split
  · refine finishWilson_mirror conf ?_ ?_
    · rw [(Wilson.wilson_val n (n - k) _).1, (Wilson.wilson_val n k _).1, Nat.cast_sub (by omega),
        Wilson.centre_symm _ _ _ (Nat.cast_pos.mpr (by omega))]
    · rw [(Wilson.wilson_val n (n - k) _).2, (Wilson.wilson_val n k _).2, Nat.cast_sub (by omega),
        Wilson.span_symm]
  · rfl

/-- the same, spelt out on the three kinds of confidence for a valid level and `z ≥ 0`:
    `[lo, hi] ↦ [1 − hi, 1 − lo]`, `[0, hi] ↦ [1 − hi, 1]`, `[lo, 1] ↦ [0, 1 − lo]` -/
theorem mirror_interval_explicit (crit : Crit Rex) (l : Rex) (n k : ℕ) (hk : 2 ≤ k)
    (hkn : k + 2 ≤ n) (hv : Confidence.validLevel l = true) :
    (0 ≤ (crit (.z (Confidence.twoSided l).quantile)).val →
      ∃ lo hi : ℝ, ciWilson crit (.twoSided l) n k = .ok (.twoSided ⟨lo⟩ ⟨hi⟩) ∧
        ciWilson crit (.twoSided l) n (n - k) = .ok (.twoSided ⟨1 - hi⟩ ⟨1 - lo⟩)) ∧
    (0 ≤ (crit (.z l)).val →
      (∃ hi : ℝ, ciWilson crit (.lower l) n k = .ok (.twoSided ⟨0⟩ ⟨hi⟩) ∧
        ciWilson crit (.upper l) n (n - k) = .ok (.twoSided ⟨1 - hi⟩ ⟨1⟩)) ∧
      (∃ lo : ℝ, ciWilson crit (.upper l) n k = .ok (.twoSided ⟨lo⟩ ⟨1⟩) ∧
        ciWilson crit (.lower l) n (n - k) = .ok (.twoSided ⟨0⟩ ⟨1 - lo⟩))) := by
  refine ⟨fun hz => ?_, fun hz => ⟨?_, ?_⟩⟩
  · have e := ciWilson_ok crit (.twoSided l) n k hk hkn hv hz
    refine ⟨_, _, e, (mirror_interval crit (.twoSided l) n k hk hkn).trans ?_⟩
    rw [e]
    rfl
  · have e := ciWilson_ok crit (.lower l) n k hk hkn hv hz
    refine ⟨_, e, (mirror_interval crit (.lower l) n k hk hkn).trans ?_⟩
    rw [e]
    show Outcome.ok (Interval.twoSided _ (⟨(1 : ℝ) - 0⟩ : Rex)) = _
    rw [sub_zero]
    rfl
  · have e := ciWilson_ok crit (.upper l) n k hk hkn hv hz
    refine ⟨_, e, (mirror_interval crit (.upper l) n k hk hkn).trans ?_⟩
    rw [e]
    show Outcome.ok (Interval.twoSided (⟨(1 : ℝ) - 1⟩ : Rex) _) = _
    rw [sub_self]
    rfl

/-! ### 3. the same proportion on a larger population -/

/-- the width strictly decreases when population and successes are both multiplied by `m > 1`
    (any `0 ≤ k ≤ n`, the ends `k = 0`, `k = n` included; `z > 0` is needed: at `z = 0` both
    widths are `0`) -/
theorem shrink (n k z m : ℝ) (hn : 0 < n) (hz : 0 < z) (hk0 : 0 ≤ k) (hkn : k ≤ n) (hm : 1 < m) :
    upperR (m * n) (m * k) z - lowerR (m * n) (m * k) z < upperR n k z - lowerR n k z := by
  have h := spanR_shrink n k z m hn hz hk0 hkn hm
  rw [upperR_def, lowerR_def, upperR_def, lowerR_def]
  linarith only [h]

example : upperR (3 * 10) (3 * 4) 2 - lowerR (3 * 10) (3 * 4) 2 < upperR 10 4 2 - lowerR 10 4 2 :=
  shrink 10 4 2 3 (by norm_num) (by norm_num) (by norm_num) (by norm_num) (by norm_num)

/-- at `z = 0` the interval is the point `k/n` whatever the population: `z > 0` cannot be dropped -/
example : upperR (3 * 10) (3 * 4) 0 - lowerR (3 * 10) (3 * 4) 0 = upperR 10 4 0 - lowerR 10 4 0 := by
  simp [upperR_eq, lowerR_eq]

/-- the two-sided interval `ci_wilson` returns for `(m·n, m·k)` is strictly narrower (`Interval.width`)
    than the one for `(n, k)` -/
theorem shrink_interval (crit : Crit Rex) (l : Rex) (n k m : ℕ) (hk : 2 ≤ k) (hkn : k + 2 ≤ n)
    (hm : 2 ≤ m) (hv : Confidence.validLevel l = true)
    (hz : 0 < (crit (.z (Confidence.twoSided l).quantile)).val) :
    ∃ i i' : Interval Rex, ∃ w w' : Rex, ciWilson crit (.twoSided l) n k = .ok i ∧
      ciWilson crit (.twoSided l) (m * n) (m * k) = .ok i' ∧
      i.width = some w ∧ i'.width = some w' ∧ w'.val < w.val := by
  have hmk : 2 ≤ m * k := (by norm_num : 2 ≤ 2 * 2).trans (Nat.mul_le_mul hm hk)
  have hmkn : m * k + 2 ≤ m * n := by
    have := Nat.mul_le_mul_left m hkn
    rw [Nat.mul_add] at this
    omega
  obtain ⟨hn, h0, h2⟩ := Wilson.cast_dom (by omega : 0 < n) (by omega : k ≤ n)
  have hm' : (1 : ℝ) < m := Nat.one_lt_cast.mpr (by omega)
  have hs := shrink n k _ m hn hz h0 h2 hm'
  refine ⟨_, _, _, _, ciWilson_ok crit (.twoSided l) n k hk hkn hv hz.le,
    ciWilson_ok crit (.twoSided l) (m * n) (m * k) hmk hmkn hv hz.le, rfl, rfl, ?_⟩
  exact_mod_cast hs

/-! ### 4. a higher level gives a wider interval -/

/-- the interval widens with the critical value -/
theorem wider (n k z₁ z₂ : ℝ) (hn : 0 < n) (hz₁ : 0 ≤ z₁) (hz : z₁ ≤ z₂) (hk0 : 0 ≤ k)
    (hkn : k ≤ n) : lowerR n k z₂ ≤ lowerR n k z₁ ∧ upperR n k z₁ ≤ upperR n k z₂ :=
  ⟨lowerR_anti_z n k z₁ z₂ hn hz₁ hz hk0 hkn, upperR_mono_z n k z₁ z₂ hn hz₁ hz hk0 hkn⟩

/-- strictly: the lower end moves down whenever `k > 0`, the upper end up whenever `k < n` -/
theorem wider_strict (n k z₁ z₂ : ℝ) (hn : 0 < n) (hz₁ : 0 ≤ z₁) (hz : z₁ < z₂) (hk0 : 0 ≤ k)
    (hkn : k ≤ n) :
    (0 < k → lowerR n k z₂ < lowerR n k z₁) ∧ (k < n → upperR n k z₁ < upperR n k z₂) :=
  ⟨fun h => lowerR_strictAnti_z n k z₁ z₂ hn hz₁ hz h hkn,
   fun h => upperR_strictMono_z n k z₁ z₂ hn hz₁ hz hk0 h⟩

example : lowerR 10 3 2 < lowerR 10 3 1 ∧ upperR 10 3 1 < upperR 10 3 2 :=
  ⟨(wider_strict 10 3 1 2 (by norm_num) (by norm_num) (by norm_num) (by norm_num)
      (by norm_num)).1 (by norm_num),
   (wider_strict 10 3 1 2 (by norm_num) (by norm_num) (by norm_num) (by norm_num)
      (by norm_num)).2 (by norm_num)⟩

/-- the side conditions of `wider_strict` are needed: at `k = 0` the lower end is `0` and at `k = n`
    the upper end is `1`, for every `z ≥ 0` -/
theorem wider_ends_fixed (n z : ℝ) (hn : 0 < n) (hz : 0 ≤ z) :
    lowerR n 0 z = 0 ∧ upperR n n z = 1 := by
  have h0 : lowerR n 0 z = 0 :=
    le_antisymm (by simpa using lowerR_le_ratio n 0 z hn hz le_rfl hn.le)
      (lowerR_nonneg n 0 z hn le_rfl hn.le)
  have h1 := upperR_mirror n 0 z hn
  rw [h0, sub_zero, sub_zero] at h1
  exact ⟨h0, h1⟩

/-- A higher level gives a wider interval, on the model function: if the external normal quantile
    `crit (.z ·)` is monotone in the probability (an explicit hypothesis: the routine is not part of
    the crate) and non-negative at the smaller level, then for two confidences of the same kind with
    `level c₁ ≤ level c₂` both calls succeed and the interval at `c₂` includes the one at `c₁`
    (`Interval.includes`). -/
theorem wider_level (crit : Crit Rex) (c₁ c₂ : Confidence Rex) (n k : ℕ) (hk : 2 ≤ k)
    (hkn : k + 2 ≤ n) (hv₁ : Confidence.validLevel c₁.level = true)
    (hv₂ : Confidence.validLevel c₂.level = true) (hkind : c₁.kind = c₂.kind)
    (hl : c₁.level.val ≤ c₂.level.val)
    (hmono : ∀ p q : Rex, p.val ≤ q.val → (crit (.z p)).val ≤ (crit (.z q)).val)
    (hz : 0 ≤ (crit (.z c₁.quantile)).val) :
    ∃ i₁ i₂ : Interval Rex, ciWilson crit c₁ n k = .ok i₁ ∧ ciWilson crit c₂ n k = .ok i₂ ∧
      i₂.includes i₁ = true := by
  obtain ⟨hn, h0, h2⟩ := Wilson.cast_dom (by omega : 0 < n) (by omega : k ≤ n)
  have hq := Confidence.quantile_le_of_level c₁ c₂ hkind hl
  have hzz := hmono _ _ hq
  have hz₂ := hz.trans hzz
  obtain ⟨hlo, hhi⟩ := wider n k _ _ hn hz hzz h0 h2
  refine ⟨_, _, ciWilson_ok crit c₁ n k hk hkn hv₁ hz, ciWilson_ok crit c₂ n k hk hkn hv₂ hz₂, ?_⟩
  exact propShape_includes c₁ c₂ hkind hlo hhi

/-- with a strictly increasing quantile routine and a strictly higher level, both ends of the
    two-sided interval move strictly outwards -/
theorem wider_level_strict (crit : Crit Rex) (l₁ l₂ : Rex) (n k : ℕ) (hk : 2 ≤ k)
    (hkn : k + 2 ≤ n) (hv₁ : Confidence.validLevel l₁ = true)
    (hv₂ : Confidence.validLevel l₂ = true) (hl : l₁.val < l₂.val)
    (hmono : ∀ p q : Rex, p.val < q.val → (crit (.z p)).val < (crit (.z q)).val)
    (hz : 0 ≤ (crit (.z (Confidence.twoSided l₁).quantile)).val) :
    ∃ a₁ b₁ a₂ b₂ : Rex, ciWilson crit (.twoSided l₁) n k = .ok (.twoSided a₁ b₁) ∧
      ciWilson crit (.twoSided l₂) n k = .ok (.twoSided a₂ b₂) ∧
      a₂.val < a₁.val ∧ b₁.val < b₂.val := by
  have hn : (0 : ℝ) < n := Nat.cast_pos.mpr (by omega)
  have h0 : (0 : ℝ) < k := Nat.cast_pos.mpr (by omega)
  have h2 : (k : ℝ) < n := Nat.cast_lt.mpr (by omega)
  have hq : (Confidence.twoSided l₁).quantile.val < (Confidence.twoSided l₂).quantile.val := by
    rw [Confidence.quantile_twoSided_val, Confidence.quantile_twoSided_val]; linarith only [hl]
  have hzz := hmono _ _ hq
  have hz₂ := hz.trans hzz.le
  obtain ⟨hlo, hhi⟩ := wider_strict n k _ _ hn hz hzz h0.le h2.le
  exact ⟨_, _, _, _, ciWilson_ok crit (.twoSided l₁) n k hk hkn hv₁ hz,
    ciWilson_ok crit (.twoSided l₂) n k hk hkn hv₂ hz₂, hlo h0, hhi h2⟩

/-! ### 5. inside the unit interval, around the observed proportion -/

/-- `0 ≤ lower ≤ k/n ≤ upper ≤ 1` -/
theorem unit (n k z : ℝ) (hn : 0 < n) (hz : 0 ≤ z) (hk0 : 0 ≤ k) (hkn : k ≤ n) :
    0 ≤ lowerR n k z ∧ lowerR n k z ≤ k / n ∧ k / n ≤ upperR n k z ∧ upperR n k z ≤ 1 :=
  ⟨lowerR_nonneg n k z hn hk0 hkn, lowerR_le_ratio n k z hn hz hk0 hkn,
   ratio_le_upperR n k z hn hz hk0 hkn, upperR_le_one n k z hn hk0 hkn⟩

example : 0 ≤ lowerR 10 3 2 ∧ lowerR 10 3 2 ≤ 3 / 10 ∧ 3 / 10 ≤ upperR 10 3 2 ∧ upperR 10 3 2 ≤ 1 :=
  unit 10 3 2 (by norm_num) (by norm_num) (by norm_num) (by norm_num)

/-- every interval `ci_wilson` returns (two-sided, upper, lower) lies in `[0,1]` and contains `k/n` -/
theorem unit_interval (crit : Crit Rex) (conf : Confidence Rex) (n k : ℕ) (hk : 2 ≤ k)
    (hkn : k + 2 ≤ n) (hv : Confidence.validLevel conf.level = true)
    (hz : 0 ≤ (crit (.z conf.quantile)).val) :
    ∃ a b : Rex, ciWilson crit conf n k = .ok (.twoSided a b) ∧
      0 ≤ a.val ∧ a.val ≤ (k : ℝ) / n ∧ (k : ℝ) / n ≤ b.val ∧ b.val ≤ 1 := by
  obtain ⟨hn, h0, h2⟩ := Wilson.cast_dom (by omega : 0 < n) (by omega : k ≤ n)
  obtain ⟨u1, u2, u3, u4⟩ := unit n k _ hn hz h0 h2
  have hr0 : (0 : ℝ) ≤ (k : ℝ) / n := div_nonneg h0 hn.le
  have hr1 : (k : ℝ) / n ≤ 1 := by rw [div_le_one hn]; exact h2
  rw [ciWilson_ok crit conf n k hk hkn hv hz]
  cases conf
  · exact ⟨_, _, rfl, u1, u2, u3, u4⟩
  · exact ⟨_, _, rfl, u1, u2, hr1, le_rfl⟩
  · exact ⟨_, _, rfl, le_rfl, hr0, u3, u4⟩

/-- **The clamp of `ci_wilson`** (`(mean - span).max(0.)`, `(mean + span).min(1.)`): on every rounded
    carrier `RR fl` — whatever the rounding function `fl` applied after each operation, whatever the
    level and whatever value the quantile routine returns, no hypothesis at all — every interval
    `ci_wilson` returns is a two-sided `[a, b]` with `0 ≤ a ≤ b ≤ 1`.  (`unit_interval` above is the
    exact-arithmetic statement, where the clamp is the identity and `k/n` is contained as well; a
    rounding error that pushes `centre ∓ span` outside `[0,1]` cannot reach the caller.) -/
theorem unit_interval_rounded {fl : ℝ → ℝ} (crit : Crit (RR fl)) (conf : Confidence (RR fl))
    (n k : ℕ) (I : Interval (RR fl)) (h : ciWilson crit conf n k = .ok I) :
    ∃ a b : RR fl, I = .twoSided a b ∧ 0 ≤ a.val ∧ a.val ≤ b.val ∧ b.val ≤ 1 :=
  WilsonRound.ciWilson_ok_unit crit conf n k I h

/-- the clamp acts: with the (absurd) rounding `fl _ = 5` both Wilson numbers and their sum are `5`;
    the lower one-sided call returns `[0, 1]` (unclamped it would be `[0, 5]`) -/
example : ciWilson (constCrit 2 : Crit (RR (fun _ => 5))) (.lower ⟨0.95⟩) 10 3
    = .ok (.twoSided ⟨0⟩ ⟨1⟩) := by
  have hp : probOk (Confidence.lower (⟨0.95⟩ : RR (fun _ => 5))).quantile = true :=
    (RR.probOk_iff _).mpr (show (0 : ℝ) ≤ 0.95 ∧ (0.95 : ℝ) ≤ 1 by norm_num)
  rw [Proportion.ciWilson_dom _ _ 10 3 (by omega) (by omega), if_pos hp, WilsonRound.finishWilson_eq_fl]
  norm_num [Confidence.kind, WilsonRound.wLo, WilsonRound.wHi]

/-! ### 6. the midpoint -/

/-- the midpoint of the two-sided interval is the model's centre, a weighted mean of `k/n` and `1/2`
    with weights `n/(n+z²)` and `z²/(n+z²)` -/
theorem midpoint (n k z : ℝ) (hn : 0 < n) :
    (lowerR n k z + upperR n k z) / 2 = centreR n k z ∧
    centreR n k z = n / (n + z ^ 2) * (k / n) + z ^ 2 / (n + z ^ 2) * (1 / 2) ∧
    0 < n / (n + z ^ 2) ∧ 0 ≤ z ^ 2 / (n + z ^ 2) ∧ n / (n + z ^ 2) + z ^ 2 / (n + z ^ 2) = 1 := by
  refine ⟨?_, centreR_convex n k z hn, weights n z hn⟩
  rw [lowerR_def, upperR_def]; ring

/-- hence it lies between `k/n` and `1/2` -/
theorem midpoint_between (n k z : ℝ) (hn : 0 < n) :
    min (k / n) (1 / 2) ≤ (lowerR n k z + upperR n k z) / 2 ∧
    (lowerR n k z + upperR n k z) / 2 ≤ max (k / n) (1 / 2) := by
  obtain ⟨h1, h2, w1, w2, w3⟩ := midpoint n k z hn
  rw [h1, h2]
  exact convex_Icc _ _ ⟨min_le_left _ _, le_max_left _ _⟩ ⟨min_le_right _ _, le_max_right _ _⟩
    w1.le w2 w3

example : min ((3 : ℝ) / 10) (1 / 2) ≤ (lowerR 10 3 2 + upperR 10 3 2) / 2 :=
  (midpoint_between 10 3 2 (by norm_num)).1

/-- the midpoint of the two-sided interval `ci_wilson` returns lies between `k/n` and `1/2` -/
theorem midpoint_interval (crit : Crit Rex) (l : Rex) (n k : ℕ) (hk : 2 ≤ k) (hkn : k + 2 ≤ n)
    (hv : Confidence.validLevel l = true)
    (hz : 0 ≤ (crit (.z (Confidence.twoSided l).quantile)).val) :
    ∃ a b : Rex, ciWilson crit (.twoSided l) n k = .ok (.twoSided a b) ∧
      min ((k : ℝ) / n) (1 / 2) ≤ (a.val + b.val) / 2 ∧
      (a.val + b.val) / 2 ≤ max ((k : ℝ) / n) (1 / 2) := by
  obtain ⟨m1, m2⟩ := midpoint_between n k (crit (.z (Confidence.twoSided l).quantile)).val
    (Nat.cast_pos.mpr (by omega))
  exact ⟨_, _, ciWilson_ok crit (.twoSided l) n k hk hkn hv hz, m1, m2⟩

/-! ### non-vacuity of the hypotheses of the `_interval` theorems

  level 0.95, 3 successes out of 10 (and 5 out of 10), a constant critical value 2 for the monotone
  case and the identity `p ↦ p` as a strictly increasing stand-in for the strict case. -/

example : Confidence.validLevel (⟨0.95⟩ : Rex) = true := RR.validLevel_95

example : ∃ i₁ i₂ : Interval Rex,
    ciWilson (constCrit 2) (.twoSided ⟨0.9⟩) 10 3 = .ok i₁ ∧
    ciWilson (constCrit 2) (.twoSided ⟨0.95⟩) 10 3 = .ok i₂ ∧ i₂.includes i₁ = true :=
  wider_level (constCrit 2) (.twoSided ⟨0.9⟩) (.twoSided ⟨0.95⟩) 10 3 (by norm_num) (by norm_num)
    (by rw [RR.validLevel_iff]; norm_num [Confidence.level])
    RR.validLevel_95 rfl
    (by norm_num [Confidence.level]) (fun _ _ _ => le_rfl) (by norm_num [constCrit])

example : ∃ a₁ b₁ a₂ b₂ : Rex,
    ciWilson (fun r => match r with | .z p => p | .t _ p => p) (.twoSided ⟨0.9⟩) 10 3
      = .ok (.twoSided a₁ b₁) ∧
    ciWilson (fun r => match r with | .z p => p | .t _ p => p) (.twoSided ⟨0.95⟩) 10 3
      = .ok (.twoSided a₂ b₂) ∧ a₂.val < a₁.val ∧ b₁.val < b₂.val :=
  wider_level_strict _ ⟨0.9⟩ ⟨0.95⟩ 10 3 (by norm_num) (by norm_num)
    (by rw [RR.validLevel_iff]; norm_num) RR.validLevel_95 (by norm_num)
    (fun _ _ h => h) (by rw [Confidence.quantile_twoSided_val]; norm_num)

example : ∃ a b a' b' : Rex, ciWilson (constCrit 2) (.upper ⟨0.95⟩) 10 3 = .ok (.twoSided a b) ∧
    ciWilson (constCrit 2) (.upper ⟨0.95⟩) 10 5 = .ok (.twoSided a' b') ∧
    a.val ≤ a'.val ∧ b.val ≤ b'.val :=
  mono_k_interval (constCrit 2) (.upper ⟨0.95⟩) 10 3 5 (by norm_num) (by norm_num) (by norm_num)
    RR.validLevel_95 (by norm_num [constCrit])

example : ∃ lo hi : ℝ,
    ciWilson (constCrit 2 : Crit Rex) (.twoSided ⟨0.95⟩) 10 3 = .ok (.twoSided ⟨lo⟩ ⟨hi⟩) ∧
    ciWilson (constCrit 2 : Crit Rex) (.twoSided ⟨0.95⟩) 10 (10 - 3)
      = .ok (.twoSided ⟨1 - hi⟩ ⟨1 - lo⟩) :=
  (mirror_interval_explicit (constCrit 2) ⟨0.95⟩ 10 3 (by norm_num) (by norm_num)
    RR.validLevel_95).1 (by norm_num [constCrit])

example : ∃ i i' : Interval Rex, ∃ w w' : Rex,
    ciWilson (constCrit 2) (.twoSided ⟨0.95⟩) 10 3 = .ok i ∧
    ciWilson (constCrit 2) (.twoSided ⟨0.95⟩) (4 * 10) (4 * 3) = .ok i' ∧
    i.width = some w ∧ i'.width = some w' ∧ w'.val < w.val :=
  shrink_interval (constCrit 2) ⟨0.95⟩ 10 3 4 (by norm_num) (by norm_num) (by norm_num)
    RR.validLevel_95 (by norm_num [constCrit])

example : ∃ a b : Rex, ciWilson (constCrit 2) (.lower ⟨0.95⟩) 10 3 = .ok (.twoSided a b) ∧
    0 ≤ a.val ∧ a.val ≤ ((3 : ℕ) : ℝ) / (10 : ℕ) ∧ ((3 : ℕ) : ℝ) / (10 : ℕ) ≤ b.val ∧ b.val ≤ 1 :=
  unit_interval (constCrit 2) (.lower ⟨0.95⟩) 10 3 (by norm_num) (by norm_num)
    RR.validLevel_95 (by norm_num [constCrit])

example : ∃ a b : Rex, ciWilson (constCrit 2) (.twoSided ⟨0.95⟩) 10 3 = .ok (.twoSided a b) ∧
    min (((3 : ℕ) : ℝ) / (10 : ℕ)) (1 / 2) ≤ (a.val + b.val) / 2 ∧
    (a.val + b.val) / 2 ≤ max (((3 : ℕ) : ℝ) / (10 : ℕ)) (1 / 2) :=
  midpoint_interval (constCrit 2) ⟨0.95⟩ 10 3 (by norm_num) (by norm_num)
    RR.validLevel_95 (by norm_num [constCrit])

end StatsCI.C17
