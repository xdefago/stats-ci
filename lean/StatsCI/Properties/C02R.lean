/-
  C02R — forward rounding-error bound for the proportion intervals: under the standard model of
  floating-point arithmetic the Wilson score interval computed by the model at `RR fl` is within
  `8 u` of the interval the same model computes in exact arithmetic (`Rex = RR id`), uniformly in
  the counts and in the critical value; the Wald interval is within `(2.01 + 1.2 |z|) u`.

  Setting.  `fl : ℝ → ℝ` is applied after every arithmetic operation of the model (`RR fl`).
  Hypotheses on `fl`, always explicit:
    `hfl  : ∀ x, |fl x - x| ≤ u * |x|`       the standard model, unit roundoff `u`
    `hu0  : 0 ≤ u`,  `hu : u ≤ 1 / 1024`      (`2⁻¹⁰`; `f64` has `u = 2⁻⁵³`)
    `hnat : ∀ m : ℕ, m ≤ n → fl m = m`        counts up to the population are exact
                                              (true of `f64` below `2⁵³`)
  and, only where stated, `hmono : Monotone fl` (true of every IEEE rounding mode).
  Not modelled by `RR fl`: overflow, NaN, gradual underflow (see `Lemmas/RR.lean`).

  Abbreviations (all reducible):
    `flCentre fl n k z := (wilsonCentre ⟨n⟩ ⟨k⟩ ⟨z⟩ : RR fl).val`   the model's centre at `RR fl`
    `flSpan   fl n k z := (wilsonSpan   ⟨n⟩ ⟨k⟩ ⟨z⟩ : RR fl).val`   the model's span at `RR fl`
    `mCentre n k z = flCentre id n k z`, `mSpan n k z = flSpan id n k z`  (exact arithmetic, C02)
  The critical value `z` is the same real number on both sides: it is what `z_value` returns
  (`zValue crit conf = .ok ⟨z⟩`), e.g. from a constant oracle `constCrit z`.

  The clamp.  `ci_wilson` clamps its two bounds into `[0, 1]` before it builds the interval:
  `low = (mean - span).max(0.)`, `high = (mean + span).min(1.)` (`Proportion.finishWilson`).  In
  exact arithmetic the clamp never acts on the domain (both roots are proportions, C02); at `RR fl`
  it can.  Hence (a) for *every* `fl`, without any hypothesis, an `Ok` result of `ciWilson` has
  `0 ≤ lo ≤ hi ≤ 1` (`ciWilson_ok_in_unit`); (b) the distance theorems keep their constants,
  because clamping a computed bound towards `[0, 1]` never moves it further from an exact bound that
  lies in `[0, 1]` (`clamped_bounds_rounding`).  The Wald function `ci_z_normal` does not clamp.

  What comes out.  The bound does **not** grow with `z`: every quantity of the Wilson formula is a
  quotient/product/sum of non-negative numbers or a square root (no cancellation), so centre and
  span carry *relative* errors `≤ 7 u`, and `0 ≤ centre`, `centre + |span| ≤ 1` turn that into the
  absolute bound `8 u` for `centre ∓ span` including the final subtraction/addition.

  What needs more than the standard model.  Whether `Interval::new` *accepts* the rounded, clamped
  pair is a comparison of two rounded numbers; the standard model alone does not decide it (§3: the
  clamp does not help, the offending pair lies strictly inside `(0, 1)`).  It is decided when `fl`
  is monotone and `0 ≤ z`, or when the exact interval is wider than `16 u`; in general the rounded
  call returns the rounded, clamped pair or `InvalidBounds`.
-/
import StatsCI.Lemmas.WilsonRound

namespace StatsCI.C02R
open StatsCI Proportion Wilson WilsonRound

variable {fl : ℝ → ℝ} {u : ℝ}

/-! ## 1. centre, span, and the two bounds -/

/-- the Wilson centre: relative error `7 u`, hence absolute error `7 u` (the centre is in `[0,1]`) -/
theorem centre_rounding (hfl : ∀ x, |fl x - x| ≤ u * |x|) (hu0 : 0 ≤ u) (hu : u ≤ 1 / 1024)
    (n k : ℕ) (hnat : ∀ m : ℕ, m ≤ n → fl m = m) (hk : 2 ≤ k) (hkn : k + 2 ≤ n) (z : ℝ) :
    |flCentre fl n k z - mCentre n k z| ≤ 7 * u * mCentre n k z ∧
    |flCentre fl n k z - mCentre n k z| ≤ 7 * u ∧
    0 ≤ mCentre n k z ∧ mCentre n k z ≤ 1 := by
  obtain ⟨c0, c1, _, _⟩ := centre_span_facts n k (by omega) (by omega) z
  have h := (flCentre_relErr hfl hu0 hu n k hnat (by omega) z).mono
    (mul_le_mul_of_nonneg_right (by norm_num) hu0 : 6.6 * u ≤ 7 * u)
  simp only [mCentre, wilsonCentre_val]
  have hc : |centre n k z| ≤ 1 := by rwa [abs_of_nonneg c0]
  have h1 := h.abs_bound (by positivity) hc
  rw [RelErr, abs_of_nonneg c0] at h
  rw [mul_one] at h1
  exact ⟨h, h1, c0, c1⟩

/-- the Wilson span: relative error `7 u`, hence absolute error `3.5 u` (`|span| ≤ 1/2`) -/
theorem span_rounding (hfl : ∀ x, |fl x - x| ≤ u * |x|) (hu0 : 0 ≤ u) (hu : u ≤ 1 / 1024)
    (n k : ℕ) (hnat : ∀ m : ℕ, m ≤ n → fl m = m) (hk : 2 ≤ k) (hkn : k + 2 ≤ n) (z : ℝ) :
    |flSpan fl n k z - mSpan n k z| ≤ 7 * u * |mSpan n k z| ∧
    |flSpan fl n k z - mSpan n k z| ≤ 7 / 2 * u ∧
    |mSpan n k z| ≤ 1 / 2 := by
  obtain ⟨_, _, _, s1⟩ := centre_span_facts n k (by omega) (by omega) z
  have h := (flSpan_relErr hfl hu0 hu n k hnat (by omega) (by omega) z).mono
    (mul_le_mul_of_nonneg_right (by norm_num) hu0 : 6.6 * u ≤ 7 * u)
  simp only [mSpan, wilsonSpan_val]
  have h1 := h.abs_bound (by positivity) s1
  rw [show 7 * u * (1 / 2) = 7 / 2 * u by ring] at h1
  exact ⟨h, h1, s1⟩

/-- both rounded bounds `fl (centre' ∓ span')` are within `8 u` of the exact `centre ∓ span`,
    for every real `z` and all counts on the domain -/
theorem bounds_rounding (hfl : ∀ x, |fl x - x| ≤ u * |x|) (hu0 : 0 ≤ u) (hu : u ≤ 1 / 1024)
    (n k : ℕ) (hnat : ∀ m : ℕ, m ≤ n → fl m = m) (hk : 2 ≤ k) (hkn : k + 2 ≤ n) (z : ℝ) :
    |fl (flCentre fl n k z - flSpan fl n k z) - (mCentre n k z - mSpan n k z)| ≤ 8 * u ∧
    |fl (flCentre fl n k z + flSpan fl n k z) - (mCentre n k z + mSpan n k z)| ≤ 8 * u := by
  simp only [mCentre, mSpan, wilsonCentre_val, wilsonSpan_val]
  exact ends_close hfl hu0 hu n k hnat (by omega) (by omega) z

/-- the bounds `ci_wilson` actually returns are the clamped ones, `max (fl (centre' - span')) 0` and
    `min (fl (centre' + span')) 1`: they are within the same `8 u` of the exact `centre ∓ span`
    (clamping towards `[0, 1]` never moves a number away from a proportion), and they are
    proportions themselves -/
theorem clamped_bounds_rounding (hfl : ∀ x, |fl x - x| ≤ u * |x|) (hu0 : 0 ≤ u) (hu : u ≤ 1 / 1024)
    (n k : ℕ) (hnat : ∀ m : ℕ, m ≤ n → fl m = m) (hk : 2 ≤ k) (hkn : k + 2 ≤ n) (z : ℝ) :
    |max (fl (flCentre fl n k z - flSpan fl n k z)) 0 - (mCentre n k z - mSpan n k z)| ≤ 8 * u ∧
    |min (fl (flCentre fl n k z + flSpan fl n k z)) 1 - (mCentre n k z + mSpan n k z)| ≤ 8 * u ∧
    0 ≤ max (fl (flCentre fl n k z - flSpan fl n k z)) 0 ∧
    min (fl (flCentre fl n k z + flSpan fl n k z)) 1 ≤ 1 := by
  obtain ⟨a, b⟩ := ends_close hfl hu0 hu n k hnat (by omega) (by omega) z
  obtain ⟨b1, b2, b3, b4⟩ := bounds_unit n k (by omega) (by omega) z
  simp only [mCentre, mSpan, wilsonCentre_val, wilsonSpan_val]
  have h := wEnds_close .twoSided a b
  rw [wLo_id_eq _ b1 b2, wHi_id_eq _ b4 b3] at h
  exact ⟨h.1, h.2, le_max_right _ _, min_le_right _ _⟩

/-- the same in the form `C · u · (1 + z²)` with `C = 8` (weaker: the factor is not needed) -/
theorem bounds_rounding_zsq (hfl : ∀ x, |fl x - x| ≤ u * |x|) (hu0 : 0 ≤ u) (hu : u ≤ 1 / 1024)
    (n k : ℕ) (hnat : ∀ m : ℕ, m ≤ n → fl m = m) (hk : 2 ≤ k) (hkn : k + 2 ≤ n) (z : ℝ) :
    |flCentre fl n k z - mCentre n k z| ≤ 8 * u * (1 + z ^ 2) ∧
    |flSpan fl n k z - mSpan n k z| ≤ 8 * u * (1 + z ^ 2) ∧
    |fl (flCentre fl n k z - flSpan fl n k z) - (mCentre n k z - mSpan n k z)|
      ≤ 8 * u * (1 + z ^ 2) ∧
    |fl (flCentre fl n k z + flSpan fl n k z) - (mCentre n k z + mSpan n k z)|
      ≤ 8 * u * (1 + z ^ 2) := by
  have h8 : 8 * u ≤ 8 * u * (1 + z ^ 2) :=
    le_mul_of_one_le_right (by positivity) (le_add_of_nonneg_right (sq_nonneg z))
  have h7 : 7 * u ≤ 8 * u := mul_le_mul_of_nonneg_right (by norm_num) hu0
  have h72 : 7 / 2 * u ≤ 8 * u := mul_le_mul_of_nonneg_right (by norm_num) hu0
  obtain ⟨_, a, _, _⟩ := centre_rounding hfl hu0 hu n k hnat hk hkn z
  obtain ⟨_, b, _⟩ := span_rounding hfl hu0 hu n k hnat hk hkn z
  obtain ⟨c, d⟩ := bounds_rounding hfl hu0 hu n k hnat hk hkn z
  exact ⟨(a.trans h7).trans h8, (b.trans h72).trans h8, c.trans h8, d.trans h8⟩

/-- non-vacuity: exact arithmetic (`fl = id`, `u = 0`) satisfies the hypotheses … -/
example : ∃ (fl : ℝ → ℝ) (u : ℝ) (n k : ℕ), (∀ x, |fl x - x| ≤ u * |x|) ∧ 0 ≤ u ∧ u ≤ 1 / 1024 ∧
    (∀ m : ℕ, m ≤ n → fl m = m) ∧ 2 ≤ k ∧ k + 2 ≤ n :=
  ⟨id, 0, 100, 30, by simp, le_refl _, by norm_num, fun _ _ => rfl, by omega, by omega⟩

/-- … and so does a genuinely inexact `fl`: everything but the naturals is inflated by the full
    relative amount `u = 2⁻¹⁰` -/
example : ∃ (fl : ℝ → ℝ) (u : ℝ) (n k : ℕ), (∀ x, |fl x - x| ≤ u * |x|) ∧ 0 < u ∧ u ≤ 1 / 1024 ∧
    (∀ m : ℕ, m ≤ n → fl m = m) ∧ 2 ≤ k ∧ k + 2 ≤ n ∧ fl (1 / 2) ≠ 1 / 2 := by
  exact ⟨Rounding.flNat (1 / 1024), 1 / 1024, 100, 30, Rounding.flNat_err (by norm_num),
    by norm_num, le_rfl, fun m _ => Rounding.flNat_nat _ m, by omega, by omega,
    Rounding.flNat_half (by norm_num)⟩

/-! ## 2. the lift to `ciWilson` -/

/-- what `ci_wilson` computes at `RR fl` on its domain once `z_value` has answered `z`: the rounded
    bounds clamped into `[0, 1]` — `max (fl (centre' - span')) 0` and `min (fl (centre' + span')) 1`
    — (far end `1` / `0` for one-sided requests) if `Interval::new` finds the pair ordered, else
    `InvalidBounds`.  (In the one-sided arms the finite bound is clamped on both sides (D17),
    so a one-sided request on the domain is never rejected, whatever `fl` and `z` are.) -/
theorem ciWilson_fl (crit : Crit (RR fl)) (conf : Confidence (RR fl)) (n k : ℕ)
    (hnat : ∀ m : ℕ, m ≤ n → fl m = m) (hk : 2 ≤ k) (hkn : k + 2 ≤ n) (z : ℝ)
    (hz : zValue crit conf = .ok ⟨z⟩) :
    ciWilson crit conf n k =
      match conf with
      | .twoSided _ =>
        if max (fl (flCentre fl n k z - flSpan fl n k z)) 0
            ≤ min (fl (flCentre fl n k z + flSpan fl n k z)) 1 then
          .ok (.twoSided ⟨max (fl (flCentre fl n k z - flSpan fl n k z)) 0⟩
                         ⟨min (fl (flCentre fl n k z + flSpan fl n k z)) 1⟩)
        else .err (.interval .invalidBounds)
      | .upper _ =>
        .ok (.twoSided ⟨min (max (fl (flCentre fl n k z - flSpan fl n k z)) 0) 1⟩ ⟨1⟩)
      | .lower _ =>
        .ok (.twoSided ⟨0⟩ ⟨max (min (fl (flCentre fl n k z + flSpan fl n k z)) 1) 0⟩) := by
  rw [ciWilson_eq_fl crit conf n k hnat hk hkn z hz]
  cases conf with
  | twoSided l => rfl
  | upper l => exact if_pos (wLo_le_wHi_one_sided fl .upper nofun _ _)
  | lower l => exact if_pos (wLo_le_wHi_one_sided fl .lower nofun _ _)

/-- on its domain a *one-sided* request always succeeds at `RR fl` — every rounding function exact on
    the counts, every real critical value (negative ones included: one-sided levels below 1/2) — and
    the reported finite bound lies in `[0, 1]` (the defect D17: clamped on one side only, a bound
    rounded past the far end made `Interval::new` fail with `InvalidBounds`) -/
theorem ciWilson_one_sided_total (crit : Crit (RR fl)) (conf : Confidence (RR fl)) (n k : ℕ)
    (hnat : ∀ m : ℕ, m ≤ n → fl m = m) (hk : 2 ≤ k) (hkn : k + 2 ≤ n) (z : ℝ)
    (hz : zValue crit conf = .ok ⟨z⟩) (hkind : conf.kind ≠ .twoSided) :
    ∃ lo hi : RR fl, ciWilson crit conf n k = .ok (.twoSided lo hi) ∧
      0 ≤ lo.val ∧ lo.val ≤ hi.val ∧ hi.val ≤ 1 := by
  have h := wLo_le_wHi_one_sided fl conf.kind hkind (flCentre fl n k z) (flSpan fl n k z)
  rw [ciWilson_eq_fl crit conf n k hnat hk hkn z hz, if_pos h]
  exact ⟨_, _, rfl, wLo_nonneg _ _ _ _, h, wHi_le_one _ _ _ _⟩

/-- for every `fl` whatsoever — no standard model, no monotonicity, no exactness on the counts —,
    every oracle, every confidence (valid or not) and all counts: an `Ok` result of `ci_wilson` at
    `RR fl` is a two-sided interval `[lo, hi]` with `0 ≤ lo ≤ hi ≤ 1`.  This is what the clamp buys:
    unclamped, a rounded bound can leave `[0, 1]` by up to `8 u`. -/
theorem ciWilson_ok_in_unit (fl : ℝ → ℝ) (crit : Crit (RR fl)) (conf : Confidence (RR fl))
    (n k : ℕ) (iv : Interval (RR fl)) (h : ciWilson crit conf n k = .ok iv) :
    ∃ lo hi : RR fl, iv = .twoSided lo hi ∧ 0 ≤ lo.val ∧ lo.val ≤ hi.val ∧ hi.val ≤ 1 :=
  ciWilson_ok_unit crit conf n k iv h

/-- non-vacuity of `ciWilson_ok_in_unit`, on a carrier where the clamp does act: with the (absurd)
    "rounding" `fl = fun _ => 2` every arithmetic result is `2`, a lower one-sided request computes
    the upper bound `fl (2 + 2) = 2`, and the call returns `[0, 1]` -/
example : ciWilson (constCrit 1 : Crit (RR (fun _ => 2))) (.lower ⟨1 / 2⟩) 4 2
    = .ok (.twoSided ⟨0⟩ ⟨1⟩) := by
  have hp : probOk (Confidence.lower (⟨1 / 2⟩ : RR (fun _ => 2))).quantile = true :=
    (RR.probOk_iff _).mpr (show (0 : ℝ) ≤ 1 / 2 ∧ (1 / 2 : ℝ) ≤ 1 by norm_num)
  rw [ciWilson_dom _ _ 4 2 (by omega) (by omega), if_pos hp, finishWilson_eq_fl]
  norm_num [Confidence.kind, wLo, wHi]

/-- standard model only, every real `z`, every kind of confidence: both the exact and the
    rounded call form a pair of (clamped) bounds and return it iff it is ordered (`InvalidBounds`
    otherwise); corresponding bounds are within `8 u`; all four lie on the right side of `0` / `1` -/
theorem ciWilson_rounding_general (hfl : ∀ x, |fl x - x| ≤ u * |x|) (hu0 : 0 ≤ u)
    (hu : u ≤ 1 / 1024) (n k : ℕ) (hnat : ∀ m : ℕ, m ≤ n → fl m = m) (hk : 2 ≤ k)
    (hkn : k + 2 ≤ n) (critF : Crit (RR fl)) (critE : Crit Rex) (confF : Confidence (RR fl))
    (confE : Confidence Rex) (hkind : confF.kind = confE.kind) (z : ℝ)
    (hzF : zValue critF confF = .ok ⟨z⟩) (hzE : zValue critE confE = .ok ⟨z⟩) :
    ∃ lo hi lo' hi' : ℝ,
      ciWilson critE confE n k =
        (if lo ≤ hi then .ok (.twoSided ⟨lo⟩ ⟨hi⟩) else .err (.interval .invalidBounds)) ∧
      ciWilson critF confF n k =
        (if lo' ≤ hi' then .ok (.twoSided ⟨lo'⟩ ⟨hi'⟩) else .err (.interval .invalidBounds)) ∧
      |lo' - lo| ≤ 8 * u ∧ |hi' - hi| ≤ 8 * u ∧ 0 ≤ lo ∧ hi ≤ 1 ∧ 0 ≤ lo' ∧ hi' ≤ 1 := by
  obtain ⟨a, b⟩ := ends_close hfl hu0 hu n k hnat (by omega) (by omega) z
  have h := wEnds_close confE.kind a b
  refine ⟨_, _, _, _, ciWilson_eq_fl critE confE n k (fun _ _ => rfl) hk hkn z hzE,
    ciWilson_eq_fl critF confF n k hnat hk hkn z hzF, ?_, ?_, wLo_nonneg _ _ _ _,
    wHi_le_one _ _ _ _, wLo_nonneg _ _ _ _, wHi_le_one _ _ _ _⟩
  all_goals
    rw [hkind]
    simp only [flCentre, flSpan, wilsonCentre_val, wilsonSpan_val]
  exacts [h.1, h.2]

/-- standard model only: if the exact call returns `[lo, hi]` (it never returns another shape)
    and `hi - lo ≥ 16 u`, the rounded call returns an interval `[lo', hi'] ⊆ [0, 1]` with both
    bounds within `8 u` -/
theorem ciWilson_rounding_of_width (hfl : ∀ x, |fl x - x| ≤ u * |x|) (hu0 : 0 ≤ u)
    (hu : u ≤ 1 / 1024) (n k : ℕ) (hnat : ∀ m : ℕ, m ≤ n → fl m = m) (hk : 2 ≤ k)
    (hkn : k + 2 ≤ n) (critF : Crit (RR fl)) (critE : Crit Rex) (confF : Confidence (RR fl))
    (confE : Confidence Rex) (hkind : confF.kind = confE.kind) (z : ℝ)
    (hzF : zValue critF confF = .ok ⟨z⟩) (hzE : zValue critE confE = .ok ⟨z⟩)
    (lo hi : Rex) (hE : ciWilson critE confE n k = .ok (.twoSided lo hi))
    (hw : lo.val + 16 * u ≤ hi.val) :
    ∃ lo' hi' : RR fl, ciWilson critF confF n k = .ok (.twoSided lo' hi') ∧
      |lo'.val - lo.val| ≤ 8 * u ∧ |hi'.val - hi.val| ≤ 8 * u ∧ 0 ≤ lo'.val ∧ hi'.val ≤ 1 := by
  obtain ⟨a, b, a', b', hEe, hFe, h1, h2, _, _, p1, p2⟩ :=
    ciWilson_rounding_general hfl hu0 hu n k hnat hk hkn critF critE confF confE hkind z hzF hzE
  rw [hEe] at hE
  split at hE
  · injection hE with hE
    injection hE with hlo hhi
    subst hlo; subst hhi
    simp only at hw
    have hab : a' ≤ b' := by linarith only [(abs_le.mp h1).2, (abs_le.mp h2).1, hw]
    exact ⟨⟨a'⟩, ⟨b'⟩, by rw [hFe, if_pos hab], h1, h2, p1, p2⟩
  · cases hE

/-- non-vacuity of `ciWilson_rounding_of_width`, with a rounding function that obeys the standard
    model but is **not** monotone (`badFl`, §3): `n = 4`, `k = 2`, two-sided, `z = 1`; the exact
    interval has half-width `span ≥ 1/5`, far more than `8 u = 2⁻⁷` -/
example : ∃ (fl : ℝ → ℝ) (u : ℝ) (n k : ℕ) (confF : Confidence (RR fl)) (confE : Confidence Rex)
    (z : ℝ) (lo hi : Rex), (∀ x, |fl x - x| ≤ u * |x|) ∧ 0 < u ∧ u ≤ 1 / 1024 ∧ ¬ Monotone fl ∧
    (∀ m : ℕ, m ≤ n → fl m = m) ∧ 2 ≤ k ∧ k + 2 ≤ n ∧ confF.kind = confE.kind ∧
    zValue (constCrit z) confF = .ok ⟨z⟩ ∧ zValue (constCrit z) confE = .ok ⟨z⟩ ∧
    ciWilson (constCrit z) confE n k = .ok (.twoSided lo hi) ∧ lo.val + 16 * u ≤ hi.val := by
  have hpE : probOk (Confidence.twoSided (⟨1 / 2⟩ : Rex)).quantile = true :=
    probOk_quantile _ (by norm_num [Confidence.level]) (by norm_num [Confidence.level])
  have eE := ciWilson_rex (constCrit 1) (.twoSided ⟨1 / 2⟩) 4 2 (by omega) (by omega) hpE
  rw [if_neg fun h => absurd h.2 (by norm_num [zOf, constCrit])] at eE
  refine ⟨badFl, 1 / 1024, 4, 2, .twoSided ⟨1 / 2⟩, .twoSided ⟨1 / 2⟩, 1, _, _, badFl_err,
    by norm_num, le_rfl, badFl_not_monotone, fun m _ => badFl_nat m, by omega, by omega, rfl,
    badFl_zValue 1, zValue_constCrit _ _ hpE, eE, ?_⟩
  show centre ((4 : ℕ) : ℝ) ((2 : ℕ) : ℝ) 1 - span ((4 : ℕ) : ℝ) ((2 : ℕ) : ℝ) 1 + 16 * (1 / 1024)
    ≤ centre ((4 : ℕ) : ℝ) ((2 : ℕ) : ℝ) 1 + span ((4 : ℕ) : ℝ) ((2 : ℕ) : ℝ) 1
  have r : 1 ≤ √(((2 : ℕ) : ℝ) * (((4 : ℕ) : ℝ) - ((2 : ℕ) : ℝ)) / ((4 : ℕ) : ℝ) + 1 ^ 2 / 4) := by
    rw [Real.one_le_sqrt]; norm_num
  have e : (1 : ℝ) / (((4 : ℕ) : ℝ) + 1 ^ 2) = 1 / 5 := by norm_num
  have hs : (1 : ℝ) / 5 ≤ span ((4 : ℕ) : ℝ) ((2 : ℕ) : ℝ) 1 := by
    rw [span, e]
    exact le_mul_of_one_le_right (by norm_num) r
  linarith only [hs]

/-- the headline.  Standard model + monotone rounding, `0 ≤ z` (what a level `≥ 1/2` gives):
    both calls succeed, return intervals of the same shape, and corresponding bounds differ by at
    most `8 u` — uniformly in `n`, `k`, `z` -/
theorem ciWilson_rounding (hfl : ∀ x, |fl x - x| ≤ u * |x|) (hu0 : 0 ≤ u) (hu : u ≤ 1 / 1024)
    (hmono : Monotone fl) (n k : ℕ) (hnat : ∀ m : ℕ, m ≤ n → fl m = m) (hk : 2 ≤ k)
    (hkn : k + 2 ≤ n) (critF : Crit (RR fl)) (critE : Crit Rex) (confF : Confidence (RR fl))
    (confE : Confidence Rex) (hkind : confF.kind = confE.kind) (z : ℝ) (hz : 0 ≤ z)
    (hzF : zValue critF confF = .ok ⟨z⟩) (hzE : zValue critE confE = .ok ⟨z⟩) :
    ∃ (iv : Interval Rex) (iv' : Interval (RR fl)),
      ciWilson critE confE n k = .ok iv ∧ ciWilson critF confF n k = .ok iv' ∧
      Close (8 * u) iv iv' := by
  obtain ⟨a, b⟩ := ends_close hfl hu0 hu n k hnat (by omega) (by omega) z
  have hu1 : u ≤ 1 := hu.trans (by norm_num)
  have oE := wfin_ordered_exact confE.kind n k (by omega) (by omega) hz
  have oF := wfin_ordered_fl hfl hu1 hmono confF.kind n k hnat (by omega) (by omega) hz
  have eE := ciWilson_eq_fl critE confE n k (fun _ _ => rfl) hk hkn z hzE
  have eF := ciWilson_eq_fl critF confF n k hnat hk hkn z hzF
  simp only [flCentre, wilsonCentre_val, flSpan, wilsonSpan_val] at eE
  rw [if_pos oE] at eE
  rw [if_pos oF] at eF
  refine ⟨_, _, eE, eF, ?_⟩
  rw [hkind]
  exact wEnds_close confE.kind a b

/-- the same with a constant oracle answering `z ≥ 0` and valid levels on both sides (the levels
    need not even agree: only the answer of the quantile routine enters) -/
theorem ciWilson_rounding_const (hfl : ∀ x, |fl x - x| ≤ u * |x|) (hu0 : 0 ≤ u)
    (hu : u ≤ 1 / 1024) (hmono : Monotone fl) (n k : ℕ) (hnat : ∀ m : ℕ, m ≤ n → fl m = m)
    (hk : 2 ≤ k) (hkn : k + 2 ≤ n) (confF : Confidence (RR fl)) (confE : Confidence Rex)
    (hkind : confF.kind = confE.kind) (lF0 : 0 < confF.level.val) (lF1 : confF.level.val < 1)
    (lE0 : 0 < confE.level.val) (lE1 : confE.level.val < 1) (z : ℝ) (hz : 0 ≤ z) :
    ∃ (iv : Interval Rex) (iv' : Interval (RR fl)),
      ciWilson (constCrit z) confE n k = .ok iv ∧ ciWilson (constCrit z) confF n k = .ok iv' ∧
      Close (8 * u) iv iv' := by
  have hu1 : u ≤ 1 := hu.trans (by norm_num)
  have pF := probOk_quantile_fl hfl hu1 hmono (nat_one hnat (by omega)) (nat_two hnat (by omega))
    confF lF0 lF1
  exact ciWilson_rounding hfl hu0 hu hmono n k hnat hk hkn _ _ confF confE hkind z hz
    (zValue_constCrit z confF pF) (zValue_constCrit z confE (probOk_quantile confE lE0 lE1))

/-- non-vacuity of the lift: a monotone, genuinely inexact rounding (inflate `(0,1)` by `2⁻¹⁰`,
    clamped at `1`), a two-sided 95 % request answered by `z = 1.96`, counts `30` of `100` -/
example : ∃ (fl : ℝ → ℝ) (u : ℝ) (n k : ℕ) (confF : Confidence (RR fl)) (confE : Confidence Rex)
    (z : ℝ), (∀ x, |fl x - x| ≤ u * |x|) ∧ 0 < u ∧ u ≤ 1 / 1024 ∧ Monotone fl ∧
    (∀ m : ℕ, m ≤ n → fl m = m) ∧ 2 ≤ k ∧ k + 2 ≤ n ∧ confF.kind = confE.kind ∧ 0 ≤ z ∧
    zValue (constCrit z) confF = .ok ⟨z⟩ ∧ zValue (constCrit z) confE = .ok ⟨z⟩ ∧
    fl (1 / 2) ≠ 1 / 2 := by
  let g : ℝ → ℝ := fun x => max x (min (x * (1 + 1 / 1024)) 1)
  have hmono : Monotone g :=
    monotone_id.max ((monotone_id.mul_const (by norm_num)).min monotone_const)
  have hg : ∀ x, |g x - x| ≤ 1 / 1024 * |x| := by
    intro x
    have h1 : x ≤ g x := le_max_left _ _
    have h2 : g x ≤ x + 1 / 1024 * |x| :=
      max_le (le_add_of_nonneg_right (mul_nonneg (by norm_num) (abs_nonneg x)))
        ((min_le_left _ _).trans (by
          rw [mul_add, mul_one, mul_comm]
          exact add_le_add_right (mul_le_mul_of_nonneg_left (le_abs_self x) (by norm_num)) x))
    rw [abs_of_nonneg (sub_nonneg.mpr h1)]
    exact sub_le_iff_le_add'.mpr h2
  have hnat : ∀ m : ℕ, m ≤ 100 → g m = m := by
    intro m _
    rcases Nat.eq_zero_or_pos m with rfl | h
    · exact max_eq_left ((min_le_left _ _).trans (by rw [Nat.cast_zero, zero_mul]))
    · exact max_eq_left ((min_le_right _ _).trans (Nat.one_le_cast.mpr h))
  have hu1 : (1 / 1024 : ℝ) ≤ 1 := by norm_num
  refine ⟨g, 1 / 1024, 100, 30, .twoSided ⟨0.95⟩, .twoSided ⟨0.95⟩, 1.96, hg, by norm_num,
    le_refl _, hmono, hnat, by omega, by omega, rfl, by norm_num, ?_, ?_, ?_⟩
  · exact zValue_constCrit _ _ (probOk_quantile_fl hg hu1 hmono (nat_one hnat (by omega))
      (nat_two hnat (by omega)) _ (by norm_num [Confidence.level]) (by norm_num [Confidence.level]))
  · exact zValue_constCrit _ _ (probOk_quantile _ (by norm_num [Confidence.level])
      (by norm_num [Confidence.level]))
  · exact (lt_max_of_lt_right (lt_min (by norm_num) (by norm_num))).ne'

/-! ## 3. the ideal statement, and why it needs one more hypothesis -/

/-- the ideal lift, from the standard model alone: *whenever* the exact call returns an interval,
    the rounded call returns an interval of the same shape with bounds within `C·u·(1 + z²)`.
    It is **false** (`ciWilson_rounding_statement_false`): the standard model does not make `fl`
    monotone, so a lower bound can be rounded above an upper bound `2 span < u` away and
    `Interval::new` rejects the pair.  What is true: the bounds themselves are always within
    `8 u` (`bounds_rounding`, `clamped_bounds_rounding`, `ciWilson_rounding_general`); the rounded
    call succeeds when `fl` is monotone and `0 ≤ z` (`ciWilson_rounding`) or when the exact interval is wider than `16 u`
    (`ciWilson_rounding_of_width`).  One-sided requests are never rejected, whatever `fl` and `z`
    (`ciWilson_one_sided_total`): their finite bound is clamped on both sides.  The clamp into `[0, 1]`
    leaves the refutation untouched: the witness pair lies strictly inside `(0, 1)`. -/
def ciWilson_rounding_statement : Prop :=
  ∃ C : ℝ, ∀ (fl : ℝ → ℝ) (u : ℝ), (∀ x, |fl x - x| ≤ u * |x|) → 0 ≤ u → u ≤ 1 / 1024 →
    ∀ n k : ℕ, (∀ m : ℕ, m ≤ n → fl m = m) → 2 ≤ k → k + 2 ≤ n →
    ∀ (critF : Crit (RR fl)) (critE : Crit Rex) (confF : Confidence (RR fl))
      (confE : Confidence Rex), confF.kind = confE.kind →
    ∀ z : ℝ, zValue critF confF = .ok ⟨z⟩ → zValue critE confE = .ok ⟨z⟩ →
    ∀ iv, ciWilson critE confE n k = .ok iv →
      ∃ iv', ciWilson critF confF n k = .ok iv' ∧ Close (C * u * (1 + z ^ 2)) iv iv'

/-- refutation on a concrete witness: `fl = badFl` (exact except on `(1/2 - 1/8000, 1/2)`, which
    is inflated by `2⁻¹⁰`; obeys the standard model with `u = 2⁻¹⁰`, exact on all naturals, not
    monotone), `n = 4`, `k = 2`, two-sided level `1/2`, oracle answer `z = 1/4096`: the exact
    call returns `[1/2 - s, 1/2 + s]`, the rounded call returns `InvalidBounds` -/
theorem ciWilson_rounding_statement_false : ¬ ciWilson_rounding_statement := by
  rintro ⟨C, h⟩
  have hzE : zValue (constCrit (1 / 4096) : Crit Rex) (.twoSided ⟨1 / 2⟩) = .ok ⟨1 / 4096⟩ :=
    zValue_constCrit _ _ (probOk_quantile _ (by norm_num [Confidence.level])
      (by norm_num [Confidence.level]))
  have eE := ciWilson_eq_fl (constCrit (1 / 4096) : Crit Rex) (.twoSided ⟨1 / 2⟩) 4 2
    (fun _ _ => rfl) (by omega) (by omega) _ hzE
  simp only [flCentre, wilsonCentre_val, flSpan, wilsonSpan_val] at eE
  rw [if_pos (wfin_ordered_exact _ 4 2 (by omega) (by omega) (by norm_num))] at eE
  obtain ⟨iv', hF, _⟩ := h badFl (1 / 1024) badFl_err (by norm_num) le_rfl 4 2
    (fun m _ => badFl_nat m) (by omega) (by omega) _ _ (.twoSided ⟨1 / 2⟩) (.twoSided ⟨1 / 2⟩) rfl
    (1 / 4096) (badFl_zValue _) hzE _ eE
  rw [badFl_ciWilson] at hF
  cases hF

/-- the witness rounding function indeed obeys every hypothesis of the ideal statement, and is
    not monotone -/
example : (∀ x, |badFl x - x| ≤ 1 / 1024 * |x|) ∧ (∀ m : ℕ, badFl m = m) ∧ ¬ Monotone badFl :=
  ⟨badFl_err, badFl_nat, badFl_not_monotone⟩

/-! ## 4. the Wald interval `ciZNormal`

  Here the bound does grow with `z`, linearly: `p̂ = k/n` carries the relative error `u`, but
  `q̂ = 1 - p̂` is a genuine cancellation (its relative error is `≈ u p̂/q̂`, unbounded as
  `n → ∞`), so the chain is run in absolute terms; `n p̂ q̂ ≥ 5` on the domain keeps the square
  root well-conditioned (`|√y - √x| ≤ |y - x|/√x`), the standard deviation gets absolute error
  `< u` and is then multiplied by `z`. -/

/-- `p̂`, the span `z·sd`, and both bounds of the Wald interval at `RR fl` against exact
    arithmetic: `u`, `1.05 |z| u`, `(2.01 + 1.2 |z|) u` -/
theorem wald_rounding (hfl : ∀ x, |fl x - x| ≤ u * |x|) (hu0 : 0 ≤ u) (hu : u ≤ 1 / 1024)
    (n k : ℕ) (hk : 10 ≤ k) (hkn : k + 10 ≤ n) (z : ℝ) :
    |flWaldP fl n k - (k : ℝ) / n| ≤ u ∧
    |flWaldW fl n k z - z * waldSd n k| ≤ 1.05 * |z| * u ∧
    |fl (flWaldP fl n k - flWaldW fl n k z) - ((k : ℝ) / n - z * waldSd n k)|
      ≤ (2.01 + 1.2 * |z|) * u ∧
    |fl (flWaldP fl n k + flWaldW fl n k z) - ((k : ℝ) / n + z * waldSd n k)|
      ≤ (2.01 + 1.2 * |z|) * u :=
  wald_err hfl hu0 hu n k hk hkn z

/-- in the rounder form `3 u (1 + |z|)` -/
theorem wald_rounding_simple (hfl : ∀ x, |fl x - x| ≤ u * |x|) (hu0 : 0 ≤ u) (hu : u ≤ 1 / 1024)
    (n k : ℕ) (hk : 10 ≤ k) (hkn : k + 10 ≤ n) (z : ℝ) :
    |fl (flWaldP fl n k - flWaldW fl n k z) - ((k : ℝ) / n - z * waldSd n k)|
      ≤ 3 * u * (1 + |z|) ∧
    |fl (flWaldP fl n k + flWaldW fl n k z) - ((k : ℝ) / n + z * waldSd n k)|
      ≤ 3 * u * (1 + |z|) := by
  have h : (2.01 + 1.2 * |z|) * u ≤ 3 * u * (1 + |z|) := by
    have hz : 0 ≤ |z| * u := mul_nonneg (abs_nonneg z) hu0
    linear_combination 0.99 * hu0 + 1.8 * hz
  obtain ⟨_, _, a, b⟩ := wald_err hfl hu0 hu n k hk hkn z
  exact ⟨a.trans h, b.trans h⟩

/-- what `ci_z_normal` computes at `RR fl` on its domain: `flWaldP` is the rounded `k/n`,
    `flWaldW` the rounded `z·√(p̂ q̂/n)` -/
theorem ciZNormal_fl (crit : Crit (RR fl)) (conf : Confidence (RR fl)) (n k : ℕ)
    (hnat : ∀ m : ℕ, m ≤ n → fl m = m) (hk : 10 ≤ k) (hkn : k + 10 ≤ n) (z : ℝ)
    (hz : zValue crit conf = .ok ⟨z⟩) :
    ciZNormal crit conf n k =
      match conf with
      | .twoSided _ =>
        if fl (flWaldP fl n k - flWaldW fl n k z) ≤ fl (flWaldP fl n k + flWaldW fl n k z) then
          .ok (.twoSided ⟨fl (flWaldP fl n k - flWaldW fl n k z)⟩
                         ⟨fl (flWaldP fl n k + flWaldW fl n k z)⟩)
        else .err (.interval .invalidBounds)
      | .upper _ =>
        if fl (flWaldP fl n k - flWaldW fl n k z) ≤ 1 then
          .ok (.twoSided ⟨fl (flWaldP fl n k - flWaldW fl n k z)⟩ ⟨1⟩)
        else .err (.interval .invalidBounds)
      | .lower _ =>
        if 0 ≤ fl (flWaldP fl n k + flWaldW fl n k z) then
          .ok (.twoSided ⟨0⟩ ⟨fl (flWaldP fl n k + flWaldW fl n k z)⟩)
        else .err (.interval .invalidBounds) := by
  rw [ciZNormal_eq_fl crit conf n k hnat hk hkn z hz]
  cases conf <;> rfl

/-- standard model only, every real `z`: both calls form a pair of bounds and return it iff it
    is ordered (`InvalidBounds` otherwise); corresponding bounds are within `(2.01 + 1.2|z|) u` -/
theorem ciZNormal_rounding_general (hfl : ∀ x, |fl x - x| ≤ u * |x|) (hu0 : 0 ≤ u)
    (hu : u ≤ 1 / 1024) (n k : ℕ) (hnat : ∀ m : ℕ, m ≤ n → fl m = m) (hk : 10 ≤ k)
    (hkn : k + 10 ≤ n) (critF : Crit (RR fl)) (critE : Crit Rex) (confF : Confidence (RR fl))
    (confE : Confidence Rex) (hkind : confF.kind = confE.kind) (z : ℝ)
    (hzF : zValue critF confF = .ok ⟨z⟩) (hzE : zValue critE confE = .ok ⟨z⟩) :
    ∃ lo hi lo' hi' : ℝ,
      ciZNormal critE confE n k =
        (if lo ≤ hi then .ok (.twoSided ⟨lo⟩ ⟨hi⟩) else .err (.interval .invalidBounds)) ∧
      ciZNormal critF confF n k =
        (if lo' ≤ hi' then .ok (.twoSided ⟨lo'⟩ ⟨hi'⟩) else .err (.interval .invalidBounds)) ∧
      |lo' - lo| ≤ (2.01 + 1.2 * |z|) * u ∧ |hi' - hi| ≤ (2.01 + 1.2 * |z|) * u := by
  refine ⟨_, _, _, _, ciZNormal_eq_fl critE confE n k (fun _ _ => rfl) hk hkn z hzE,
    ciZNormal_eq_fl critF confF n k hnat hk hkn z hzF, ?_⟩
  rw [hkind, flWaldP_id, flWaldW_id]
  exact wald_fin_close hfl hu0 hu confE.kind n k hk hkn z

/-- standard model + monotone rounding, `0 ≤ z`: both calls succeed, same shape, corresponding
    bounds within `(2.01 + 1.2 z) u ≤ 3 u (1 + z)` -/
theorem ciZNormal_rounding (hfl : ∀ x, |fl x - x| ≤ u * |x|) (hu0 : 0 ≤ u) (hu : u ≤ 1 / 1024)
    (hmono : Monotone fl) (n k : ℕ) (hnat : ∀ m : ℕ, m ≤ n → fl m = m) (hk : 10 ≤ k)
    (hkn : k + 10 ≤ n) (critF : Crit (RR fl)) (critE : Crit Rex) (confF : Confidence (RR fl))
    (confE : Confidence Rex) (hkind : confF.kind = confE.kind) (z : ℝ) (hz : 0 ≤ z)
    (hzF : zValue critF confF = .ok ⟨z⟩) (hzE : zValue critE confE = .ok ⟨z⟩) :
    ∃ (iv : Interval Rex) (iv' : Interval (RR fl)),
      ciZNormal critE confE n k = .ok iv ∧ ciZNormal critF confF n k = .ok iv' ∧
      Close ((2.01 + 1.2 * z) * u) iv iv' := by
  have hu1 : u ≤ 1 := hu.trans (by norm_num)
  have oE := wald_ordered_exact confE.kind n k hk hkn hz
  have oF := wald_ordered_fl hfl hu1 hmono confF.kind n k hnat hk hkn hz
  have eE := ciZNormal_eq_fl critE confE n k (fun _ _ => rfl) hk hkn z hzE
  have eF := ciZNormal_eq_fl critF confF n k hnat hk hkn z hzF
  rw [flWaldP_id, flWaldW_id, if_pos oE] at eE
  rw [if_pos oF] at eF
  refine ⟨_, _, eE, eF, ?_⟩
  have := wald_fin_close hfl hu0 hu confE.kind n k hk hkn z
  rw [abs_of_nonneg hz] at this
  rw [hkind]
  exact this

/-- non-vacuity for the Wald statements: counts `30` of `100`, `z = 1.96`, a valid upper request
    (exact arithmetic; the inexact monotone `fl` of §2 works here as well) -/
example : ∃ (fl : ℝ → ℝ) (u : ℝ) (n k : ℕ) (confF : Confidence (RR fl)) (confE : Confidence Rex)
    (z : ℝ), (∀ x, |fl x - x| ≤ u * |x|) ∧ 0 ≤ u ∧ u ≤ 1 / 1024 ∧ Monotone fl ∧
    (∀ m : ℕ, m ≤ n → fl m = m) ∧ 10 ≤ k ∧ k + 10 ≤ n ∧ confF.kind = confE.kind ∧ 0 ≤ z ∧
    zValue (constCrit z) confF = .ok ⟨z⟩ ∧ zValue (constCrit z) confE = .ok ⟨z⟩ := by
  -- `RR id` is `Rex`: the two requests are the same
  have hz := zValue_constCrit 1.96 (.upper ⟨0.95⟩ : Confidence Rex)
    (probOk_quantile _ (by norm_num [Confidence.level]) (by norm_num [Confidence.level]))
  exact ⟨id, 0, 100, 30, .upper ⟨0.95⟩, .upper ⟨0.95⟩, 1.96, by simp, le_refl _, by norm_num,
    monotone_id, fun _ _ => rfl, by omega, by omega, rfl, by norm_num, hz, hz⟩

end StatsCI.C02R
