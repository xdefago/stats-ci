/-
  C06 — The critical value implied by a mean or comparison interval is the quantile of the
  reference distribution at `(1+L)/2` (two-sided) or `L` (one-sided): Student-t with the applicable
  degrees of freedom below `POPULATION_LIMIT = 100 000`, standard normal from there on; the `z` of a
  proportion interval belongs to the same probability.

  The inverse CDFs are external (`statrs`); the model takes them as a parameter `crit`. What is
  proved here is everything *around* the external routine:
    1. the probability handed to it (`quantile_map`),
    2. which distribution and which degrees of freedom it is asked for, and that the interval is
       `mean ∓ c·sem` for exactly that one answer `c` (section 2, switch),
    3. where the degrees of freedom come from (section 3, dof_sources),
    4. the conditional statement: IF the routine is a right inverse of the CDF THEN the CDF at the
       critical value is the stated probability (`inverse`),
    5. that the critical value is recovered from a returned interval as half-width / standard error
       (section 5, implied_c), so that 4 speaks about the interval the caller sees.
  The numerical accuracy of `statrs` itself is outside the reach of a proof (it is tested, with
  tolerance `1e-12 + 1e-10·ν`, by the differential harness).
-/
import StatsCI.Lemmas.Total
import StatsCI.Lemmas.Wilson
import StatsCI.Lemmas.MeanUnpaired

namespace StatsCI.C06
open StatsCI NumOps Scalar

/-- the probability the property speaks of: `(1+L)/2` two-sided, `L` one-sided -/
noncomputable def target : Confidence Rex → ℝ
  | .twoSided l => (1 + l.val) / 2
  | .upper l => l.val
  | .lower l => l.val

/-! ## 1. quantile_map -/

/-- the model computes `1 − (1−L)/2` for two-sided confidence, which is `(1+L)/2`; `L` one-sided -/
theorem quantile_map (conf : Confidence Rex) : conf.quantile.val = target conf := by
  cases conf
  · exact Confidence.quantile_twoSided_val _
  · rfl
  · rfl

/-- the same on `XR` for the finite levels (the only constructible ones) -/
theorem quantile_map_XR (r : ℝ) :
    (Confidence.twoSided (XR.fin r)).quantile = XR.fin ((1 + r) / 2) ∧
    (Confidence.upper (XR.fin r)).quantile = XR.fin r ∧
    (Confidence.lower (XR.fin r)).quantile = XR.fin r :=
  ⟨Confidence.quantile_twoSided_XR r, rfl, rfl⟩

/-- for a valid level the probability lies strictly inside `(0,1)`, so `inverse_cdf` accepts it -/
theorem target_mem_Ioo (conf : Confidence Rex) (hv : Confidence.validLevel conf.level = true) :
    target conf ∈ Set.Ioo (0 : ℝ) 1 := by
  have hl := (RR.validLevel_iff _).mp hv
  cases conf
  · exact ⟨div_pos (add_pos one_pos hl.1) two_pos,
      (div_lt_one (two_pos : (0 : ℝ) < 2)).mpr
        (lt_of_lt_of_eq (add_lt_add_right hl.2 1) one_add_one_eq_two)⟩
  · exact hl
  · exact hl

example : Confidence.validLevel (Confidence.twoSided (inj 0.95 : Rex)).level = true :=
  Examples.conf95_valid

/-! ## 2. switch

Which law is consulted is `MeanLemmas.critReq_rex`: `critReq conf ⟨d⟩` is `.t ⟨d⟩ conf.quantile` for
`d < 100000` and `.z conf.quantile` from there on; `crit_cdf` (§4) reads the two cases off it. -/

-- the side conditions `hq` (below) and `hd` (§4) are satisfiable
example : probOk (Confidence.twoSided (inj 0.95 : Rex)).quantile = true ∧ 0 < (inj 3 : Rex).val :=
  ⟨Examples.conf95_probOk, three_pos⟩

/-- no other request reaches the external routine: two oracles that agree on `critReq conf dof`
    give the same outcome (any carrier) -/
theorem intervalBounds_congr {W : Type} [Scalar W] (crit crit' : Crit W) (conf : Confidence W)
    (m s dof : W) (h : crit (critReq conf dof) = crit' (critReq conf dof)) :
    intervalBounds crit conf m s dof = intervalBounds crit' conf m s dof := by
  rw [intervalBounds_eq_map, intervalBounds_eq_map, critValue_congr_crit h]

/-- given a probability `inverse_cdf` accepts, `interval_bounds` panics exactly when Student-t is
    asked for with degrees of freedom that are not positive -/
theorem intervalBounds_panic_iff (crit : Crit Rex) (conf : Confidence Rex) (m s dof : Rex)
    (hq : probOk conf.quantile = true) :
    (∃ t, intervalBounds crit conf m s dof = .panic t) ↔ dof.val < 100000 ∧ ¬ 0 < dof.val := by
  rw [← Outcome.isPanic_iff, intervalBounds_isPanic_iff]
  simp only [hq, Bool.true_eq_false, or_false, RR.lt_iff, RR.populationLimit_val, id_eq]
  rw [← Bool.not_eq_true, RR.gt_iff, RR.zero_val]

/-- and it never answers with a documented error -/
theorem intervalBounds_never_err {W : Type} [Scalar W] (crit : Crit W) (conf : Confidence W)
    (m s dof : W) (e : Err W) : intervalBounds crit conf m s dof ≠ .err e := by
  simp only [intervalBounds_eq_map, ne_eq, Outcome.map_eq_err_iff, critValue_eq,
    Outcome.ite_panic_eq_err_iff, reduceCtorEq, and_false, not_false_eq_true]

/-! ## 3. dof_sources -/

/-- `Arithmetic::ci_mean` hands on `dof = n − 1` (and `sem = sd/√n`), on every carrier -/
theorem arith_dof {F W : Type} [Scalar F] [Scalar W] [Widen F W] (a : Arith F) (p : Arith.Prep W)
    (h : (Arith.ciPrep a : Outcome (Err W) (Arith.Prep W)) = .ok p) :
    p.dof = sub (Scalar.ofNat a.count) one ∧ p.mean = Widen.up a.mean ∧
    p.sem = div (Widen.up a.stdDev) (sqrt (Scalar.ofNat a.count)) ∧ 2 ≤ a.count := by
  obtain ⟨h2, _, _, rfl⟩ := Arith.ciPrep_eq_ok_iff.mp h
  exact ⟨rfl, rfl, rfl, h2⟩

/-- at exact reals: `dof = n − 1 > 0`, `sem = sd/√n` -/
theorem arith_dof_val (a : Arith Rex) (p : Arith.Prep Rex)
    (h : (Arith.ciPrep a : Outcome (Err Rex) (Arith.Prep Rex)) = .ok p) :
    p.dof.val = (a.count : ℝ) - 1 ∧ 0 < p.dof.val ∧
    p.sem.val = a.stdDev.val / Real.sqrt a.count ∧ p.mean = a.mean := by
  obtain ⟨h2, _, _, rfl⟩ := Arith.ciPrep_eq_ok_iff.mp h
  exact ⟨rfl, sub_pos.mpr (Nat.one_lt_cast.mpr h2), rfl, rfl⟩

example : (Arith.ciPrep (Arith.fromList [inj 1, inj 2, inj 4] : Arith Rex) :
    Outcome (Err Rex) (Arith.Prep Rex)).isOk = true := by
  have h : 2 ≤ (Arith.fromList [inj 1, inj 2, inj 4] : Arith Rex).count := by
    rw [Arith.fromList_count]; decide
  rw [MeanLemmas.Arith.ciPrep_rr_ok _ h]; rfl

/-- `Unpaired::ci_mean` hands on the documented effective degrees of freedom
    `S²/(A²/(n_a+1) + B²/(n_b+1)) − 1 − 1`, `A = s_a²/n_a`, `B = s_b²/n_b`, `S = A + B`, where `A`, `B`
    are computed in the data type and the formula is evaluated in the wide type on the widened `A`,
    `B`, `n_a`, `n_b` and then bounded below by `min(n_a, n_b) − 1` (`Unpaired.clampDof`: a computed
    value below the bound is replaced by it, anything else — a NaN included — passes; in exact
    arithmetic the bound is inactive unless both samples are constant, `unpaired_dof_val`);
    `sem = sqrt(A + B)` is computed in the data type and then widened — on every carrier -/
theorem unpaired_dof {F W : Type} [Scalar F] [Scalar W] [Widen F W] (u : Unpaired F)
    (p : Arith.Prep W) (h : (Unpaired.ciPrep u : Outcome (Err W) (Arith.Prep W)) = .ok p) :
    let A : F := div (mul u.a.stdDev u.a.stdDev) (Scalar.ofNat u.a.count)
    let B : F := div (mul u.b.stdDev u.b.stdDev) (Scalar.ofNat u.b.count)
    let S : F := add A B
    let A' : W := Widen.up A
    let B' : W := Widen.up B
    let S' : W := add A' B'
    p.dof = Unpaired.clampDof (sub (sub (div (mul S' S')
        (add (div (mul A' A') (add (Widen.up (Scalar.ofNat u.a.count : F)) one))
             (div (mul B' B') (add (Widen.up (Scalar.ofNat u.b.count : F)) one)))) one) one)
        (Widen.up (Scalar.ofNat u.a.count : F)) (Widen.up (Scalar.ofNat u.b.count : F)) ∧
    p.sem = Widen.up (sqrt S) ∧ p.mean = Widen.up (sub u.a.mean u.b.mean) ∧
    2 ≤ u.a.count ∧ 2 ≤ u.b.count := by
  obtain ⟨h1, h2, _, _, rfl⟩ := Unpaired.ciPrep_eq_ok_iff.mp h
  exact ⟨rfl, rfl, rfl, h1, h2⟩

/-- at exact reals, as a formula -/
theorem unpaired_dof_val (u : Unpaired Rex) (p : Arith.Prep Rex)
    (h : (Unpaired.ciPrep u : Outcome (Err Rex) (Arith.Prep Rex)) = .ok p) :
    let A : ℝ := u.a.stdDev.val * u.a.stdDev.val / u.a.count
    let B : ℝ := u.b.stdDev.val * u.b.stdDev.val / u.b.count
    p.dof.val = max ((A + B) * (A + B) / (A * A / (u.a.count + 1) + B * B / (u.b.count + 1)) - 1 - 1)
      (min (u.a.count : ℝ) u.b.count - 1) ∧
    (0 < A + B → p.dof.val =
      (A + B) * (A + B) / (A * A / (u.a.count + 1) + B * B / (u.b.count + 1)) - 1 - 1) ∧
    p.sem.val = Real.sqrt (A + B) ∧ p.mean.val = u.a.mean.val - u.b.mean.val := by
  obtain ⟨ha, hb, _, _, rfl⟩ := Unpaired.ciPrep_eq_ok_iff.mp h
  intro A B
  have hw : MeanLemmas.welchDof A B u.a.count u.b.count =
      (A + B) * (A + B) / (A * A / (u.a.count + 1) + B * B / (u.b.count + 1)) - 1 - 1 := by
    rw [MeanLemmas.welchDof, sq, sq, sq, sub_sub, one_add_one_eq_two]
  have hd := MeanLemmas.Unpaired.dofW_val u
  exact ⟨hd.trans (congrArg (max · (min (u.a.count : ℝ) u.b.count - 1)) hw),
    fun hpos => hd.trans ((MeanLemmas.clampedDof_eq A B _ _ (Nat.ofNat_le_cast.mpr ha)
      (Nat.ofNat_le_cast.mpr hb) (div_nonneg (mul_self_nonneg _) (Nat.cast_nonneg _))
      (div_nonneg (mul_self_nonneg _) (Nat.cast_nonneg _)) hpos).trans hw), rfl, rfl⟩

/-- `Paired::ci_mean` is `Arithmetic::ci_mean` of the differences: `dof = n − 1` again -/
theorem paired_is_arith {F W : Type} [Scalar F] [Scalar W] [Widen F W] (crit : Crit W)
    (p : Paired F) (conf : Confidence W) : p.ciMean crit conf = p.stats.ciMean crit conf := rfl

/-! ## 4. inverse -/

/-- a critical-value oracle that implements quantile functions `Qt ν` (Student-t) and `Qz` (normal) -/
def Implements (crit : Crit Rex) (Qt : ℝ → ℝ → ℝ) (Qz : ℝ → ℝ) : Prop :=
  (∀ dof p : Rex, (crit (.t dof p)).val = Qt dof.val p.val) ∧ (∀ p : Rex, (crit (.z p)).val = Qz p.val)

/-- IF the external routines are right inverses of the CDFs THEN the answer to the request
    `critReq conf dof` has the CDF value `target conf`: of Student-t with `dof` degrees of freedom
    below the population limit, of the normal distribution from it on -/
theorem crit_cdf (Ft Qt : ℝ → ℝ → ℝ) (Φ Qz : ℝ → ℝ)
    (hQt : ∀ ν : ℝ, 0 < ν → ∀ p ∈ Set.Ioo (0 : ℝ) 1, Ft ν (Qt ν p) = p)
    (hQz : ∀ p ∈ Set.Ioo (0 : ℝ) 1, Φ (Qz p) = p)
    (crit : Crit Rex) (hc : Implements crit Qt Qz)
    (conf : Confidence Rex) (hv : Confidence.validLevel conf.level = true)
    (dof : Rex) (hd : 0 < dof.val) :
    (dof.val < 100000 → Ft dof.val (crit (critReq conf dof)).val = target conf) ∧
    (100000 ≤ dof.val → Φ (crit (critReq conf dof)).val = target conf) := by
  have ht := target_mem_Ioo conf hv
  have e : critReq conf dof = _ := MeanLemmas.critReq_rex conf dof.val
  constructor
  · intro hl
    rw [e, if_pos hl, hc.1, quantile_map]
    exact hQt _ hd _ ht
  · intro hl
    rw [e, if_neg (not_lt.mpr hl), hc.2, quantile_map]
    exact hQz _ ht

/-- IF the external routines are right inverses of the CDFs `Ft ν` (for `ν > 0`) and `Φ` on `(0,1)`
    THEN the critical value `c` with which `interval_bounds` builds `mean ∓ c·sem` satisfies
    `Ft dof c = (1+L)/2` resp. `L` below the population limit and `Φ c =` the same from it on. -/
theorem inverse (Ft Qt : ℝ → ℝ → ℝ) (Φ Qz : ℝ → ℝ)
    (hQt : ∀ ν : ℝ, 0 < ν → ∀ p ∈ Set.Ioo (0 : ℝ) 1, Ft ν (Qt ν p) = p)
    (hQz : ∀ p ∈ Set.Ioo (0 : ℝ) 1, Φ (Qz p) = p)
    (crit : Crit Rex) (hc : Implements crit Qt Qz)
    (conf : Confidence Rex) (hv : Confidence.validLevel conf.level = true)
    (m s dof : Rex) (hd : 0 < dof.val) :
    ∃ c : ℝ, intervalBounds crit conf m s dof = .ok (⟨m.val - c * s.val⟩, ⟨m.val + c * s.val⟩) ∧
      (dof.val < 100000 → Ft dof.val c = target conf) ∧
      (100000 ≤ dof.val → Φ c = target conf) :=
  ⟨_, intervalBounds_eq_ok_iff.mpr
      ⟨fun _ => (RR.gt_iff _ _).mpr hd, Confidence.probOk_of_valid_Rex conf hv, rfl⟩,
    crit_cdf Ft Qt Φ Qz hQt hQz crit hc conf hv dof hd⟩

/-- the hypotheses of `inverse` are satisfiable: the logistic distribution `F x = 1/(1+e^{-x})` with
    its quantile function `Q p = ln(p/(1−p))` (for every `ν`), and an oracle implementing it -/
example : ∃ (Ft Qt : ℝ → ℝ → ℝ) (Φ Qz : ℝ → ℝ) (crit : Crit Rex),
    (∀ ν : ℝ, 0 < ν → ∀ p ∈ Set.Ioo (0 : ℝ) 1, Ft ν (Qt ν p) = p) ∧
    (∀ p ∈ Set.Ioo (0 : ℝ) 1, Φ (Qz p) = p) ∧ Implements crit Qt Qz := by
  have key : ∀ p ∈ Set.Ioo (0 : ℝ) 1, 1 / (1 + Real.exp (-Real.log (p / (1 - p)))) = p := by
    intro p ⟨h0, h1⟩
    rw [Real.exp_neg, Real.exp_log (div_pos h0 (sub_pos.mpr h1)), inv_div, one_add_div h0.ne',
      add_sub_cancel, one_div_one_div]
  refine ⟨fun _ x => 1 / (1 + Real.exp (-x)), fun _ p => Real.log (p / (1 - p)),
    fun x => 1 / (1 + Real.exp (-x)), fun p => Real.log (p / (1 - p)),
    fun r => match r with
      | .t _ p => ⟨Real.log (p.val / (1 - p.val))⟩
      | .z p => ⟨Real.log (p.val / (1 - p.val))⟩,
    fun _ _ p hp => key p hp, key, fun _ _ => rfl, fun _ => rfl⟩

/-! ## 5. implied_c -/

/-- the standard error `ci_mean` uses: `sd/√n` -/
noncomputable def semOf (a : Arith Rex) : ℝ := a.stdDev.val / Real.sqrt a.count

/-- every `Ok` of `Arithmetic::ci_mean` at exact reals is `mean ∓ c·sem`, `c` the answer to the one
    request `critReq conf (n−1)`; in particular `Ok` implies the guards passed -/
theorem arith_ok_bounds (crit : Crit Rex) (a : Arith Rex) (conf : Confidence Rex) (i : Interval Rex)
    (h : Arith.ciMean crit a conf = .ok i) :
    2 ≤ a.count ∧ probOk conf.quantile = true ∧
    (conf.kind = .twoSided →
      i = .twoSided ⟨a.mean.val - MeanLemmas.critVal crit conf a.count * semOf a⟩
        ⟨a.mean.val + MeanLemmas.critVal crit conf a.count * semOf a⟩) ∧
    (conf.kind = .upper →
      i = .upper ⟨a.mean.val - MeanLemmas.critVal crit conf a.count * semOf a⟩) ∧
    (conf.kind = .lower →
      i = .lower ⟨a.mean.val + MeanLemmas.critVal crit conf a.count * semOf a⟩) := by
  obtain ⟨h2, _, _, _, hq, h⟩ := Arith.ciMean_eq_ok_iff.mp h
  obtain ⟨h1, hu, hl⟩ := intervalOfKind_eq_ok h
  exact ⟨h2, hq, fun hk => (h1 hk).1, hu, hl⟩

/-- the critical value for a sample of `n ≥ 2` has the CDF value `target conf` at `n − 1` degrees of
    freedom -/
theorem critVal_cdf (Ft Qt : ℝ → ℝ → ℝ) (Φ Qz : ℝ → ℝ)
    (hQt : ∀ ν : ℝ, 0 < ν → ∀ p ∈ Set.Ioo (0 : ℝ) 1, Ft ν (Qt ν p) = p)
    (hQz : ∀ p ∈ Set.Ioo (0 : ℝ) 1, Φ (Qz p) = p)
    (crit : Crit Rex) (hc : Implements crit Qt Qz)
    (conf : Confidence Rex) (hv : Confidence.validLevel conf.level = true) {n : ℕ} (h2 : 2 ≤ n) :
    ((n : ℝ) - 1 < 100000 → Ft ((n : ℝ) - 1) (MeanLemmas.critVal crit conf n) = target conf) ∧
    (100000 ≤ (n : ℝ) - 1 → Φ (MeanLemmas.critVal crit conf n) = target conf) :=
  crit_cdf Ft Qt Φ Qz hQt hQz crit hc conf hv ⟨(n : ℝ) - 1⟩ (sub_pos.mpr (Nat.one_lt_cast.mpr h2))

/-- the critical value read off `m ∓ c·s`: half the width over `s`, or the distance of either bound
    from `m` over `s` -/
theorem c_of_bounds (m c : ℝ) {s : ℝ} (hs : s ≠ 0) :
    (m + c * s - (m - c * s)) / 2 / s = c ∧ (m - (m - c * s)) / s = c ∧ (m + c * s - m) / s = c :=
  ⟨by rw [add_sub_sub_cancel, ← two_mul, mul_div_cancel_left₀ _ two_ne_zero, mul_div_cancel_right₀ _ hs],
    by rw [sub_sub_cancel, mul_div_cancel_right₀ _ hs],
    by rw [add_sub_cancel_left, mul_div_cancel_right₀ _ hs]⟩

/-- two-sided: the critical value is half the width over the standard error -/
theorem implied_c_twoSided (crit : Crit Rex) (a : Arith Rex) (l lo hi : Rex)
    (h : Arith.ciMean crit a (.twoSided l) = .ok (.twoSided lo hi)) (hsem : semOf a ≠ 0) :
    (hi.val - lo.val) / 2 / semOf a = MeanLemmas.critVal crit (.twoSided l) a.count := by
  obtain ⟨rfl, rfl⟩ := Interval.twoSided.inj ((arith_ok_bounds crit a _ _ h).2.2.1 rfl)
  exact (c_of_bounds _ _ hsem).1

/-- upper one-sided `[lo, ∞)`: `(mean − lo)/sem` -/
theorem implied_c_upper (crit : Crit Rex) (a : Arith Rex) (l lo : Rex)
    (h : Arith.ciMean crit a (.upper l) = .ok (.upper lo)) (hsem : semOf a ≠ 0) :
    (a.mean.val - lo.val) / semOf a = MeanLemmas.critVal crit (.upper l) a.count := by
  obtain rfl := Interval.upper.inj ((arith_ok_bounds crit a _ _ h).2.2.2.1 rfl)
  exact (c_of_bounds _ _ hsem).2.1

/-- lower one-sided `(−∞, hi]`: `(hi − mean)/sem` -/
theorem implied_c_lower (crit : Crit Rex) (a : Arith Rex) (l hi : Rex)
    (h : Arith.ciMean crit a (.lower l) = .ok (.lower hi)) (hsem : semOf a ≠ 0) :
    (hi.val - a.mean.val) / semOf a = MeanLemmas.critVal crit (.lower l) a.count := by
  obtain rfl := Interval.lower.inj ((arith_ok_bounds crit a _ _ h).2.2.2.2 rfl)
  exact (c_of_bounds _ _ hsem).2.2

/-- the hypotheses are satisfiable: the sample `1, 2` (a reachable state) with `c = 2` gives an `Ok`
    two-sided interval and a non-zero standard error, at a valid level -/
example : Examples.a12 = Arith.fromList [inj 1, inj 2] ∧
    Confidence.validLevel (inj 0.95 : Rex) = true ∧
    ∃ lo hi : Rex,
      Arith.ciMean (constCrit 2 : Crit Rex) Examples.a12 (.twoSided (inj 0.95)) = .ok (.twoSided lo hi) ∧
      semOf Examples.a12 ≠ 0 :=
  ⟨Examples.a12_reachable, Examples.conf95_valid, Examples.arith_ok⟩

/-! ## the headline: the CDF at the implied critical value -/

/-- two-sided `Arithmetic::ci_mean` (hence `Paired::ci_mean`): IF the external routines invert the
    CDFs THEN the critical value read off the returned interval, `(hi − lo)/2/sem`, has CDF value
    `(1+L)/2` — Student-t with `n − 1` degrees of freedom below the limit, normal from it on -/
theorem arith_twoSided_cdf (Ft Qt : ℝ → ℝ → ℝ) (Φ Qz : ℝ → ℝ)
    (hQt : ∀ ν : ℝ, 0 < ν → ∀ p ∈ Set.Ioo (0 : ℝ) 1, Ft ν (Qt ν p) = p)
    (hQz : ∀ p ∈ Set.Ioo (0 : ℝ) 1, Φ (Qz p) = p)
    (crit : Crit Rex) (hc : Implements crit Qt Qz)
    (a : Arith Rex) (l lo hi : Rex) (hv : Confidence.validLevel l = true)
    (h : Arith.ciMean crit a (.twoSided l) = .ok (.twoSided lo hi)) (hsem : semOf a ≠ 0) :
    ((a.count : ℝ) - 1 < 100000 →
      Ft ((a.count : ℝ) - 1) ((hi.val - lo.val) / 2 / semOf a) = (1 + l.val) / 2) ∧
    (100000 ≤ (a.count : ℝ) - 1 → Φ ((hi.val - lo.val) / 2 / semOf a) = (1 + l.val) / 2) := by
  rw [implied_c_twoSided crit a l lo hi h hsem]
  exact critVal_cdf Ft Qt Φ Qz hQt hQz crit hc (.twoSided l) hv (arith_ok_bounds crit a _ _ h).1

/-- one-sided `Arithmetic::ci_mean`: the CDF at `(mean − lo)/sem` resp. `(hi − mean)/sem` is `L` -/
theorem arith_oneSided_cdf (Ft Qt : ℝ → ℝ → ℝ) (Φ Qz : ℝ → ℝ)
    (hQt : ∀ ν : ℝ, 0 < ν → ∀ p ∈ Set.Ioo (0 : ℝ) 1, Ft ν (Qt ν p) = p)
    (hQz : ∀ p ∈ Set.Ioo (0 : ℝ) 1, Φ (Qz p) = p)
    (crit : Crit Rex) (hc : Implements crit Qt Qz)
    (a : Arith Rex) (l b : Rex) (hv : Confidence.validLevel l = true) (hsem : semOf a ≠ 0) :
    (Arith.ciMean crit a (.upper l) = .ok (.upper b) →
      ((a.count : ℝ) - 1 < 100000 → Ft ((a.count : ℝ) - 1) ((a.mean.val - b.val) / semOf a) = l.val) ∧
      (100000 ≤ (a.count : ℝ) - 1 → Φ ((a.mean.val - b.val) / semOf a) = l.val)) ∧
    (Arith.ciMean crit a (.lower l) = .ok (.lower b) →
      ((a.count : ℝ) - 1 < 100000 → Ft ((a.count : ℝ) - 1) ((b.val - a.mean.val) / semOf a) = l.val) ∧
      (100000 ≤ (a.count : ℝ) - 1 → Φ ((b.val - a.mean.val) / semOf a) = l.val)) := by
  constructor
  · intro h
    rw [implied_c_upper crit a l b h hsem]
    exact critVal_cdf Ft Qt Φ Qz hQt hQz crit hc (.upper l) hv (arith_ok_bounds crit a _ _ h).1
  · intro h
    rw [implied_c_lower crit a l b h hsem]
    exact critVal_cdf Ft Qt Φ Qz hQt hQz crit hc (.lower l) hv (arith_ok_bounds crit a _ _ h).1

/-! ## comparisons and proportions -/

/-- `Unpaired::ci_mean` on a state that passes the guards builds `Δmean ∓ c·sem` with `c` the answer
    to the request for the *effective* degrees of freedom (`unpaired_dof`), on every carrier -/
theorem unpaired_uses_effective_dof {F W : Type} [Scalar F] [Scalar W] [Widen F W]
    (crit : Crit W) (u : Unpaired F) (conf : Confidence W) (i : Interval F)
    (h : Unpaired.ciMean crit u conf = .ok i) :
    ∃ p : Arith.Prep W, (Unpaired.ciPrep u : Outcome (Err W) (Arith.Prep W)) = .ok p ∧
      p.dof = Unpaired.dofW u ∧
      intervalBounds crit conf p.mean p.sem p.dof =
        .ok (sub p.mean (mul (crit (critReq conf p.dof)) p.sem),
             add p.mean (mul (crit (critReq conf p.dof)) p.sem)) := by
  rw [MeanLemmas.Unpaired.ciMean_eq_finish] at h
  obtain ⟨p, hp, hd, hq, _⟩ := MeanLemmas.finish_eq_ok_iff.mp h
  refine ⟨p, hp, ?_, intervalBounds_eq_ok_iff.mpr ⟨hd, hq, rfl⟩⟩
  rw [(Unpaired.ciPrep_eq_ok_iff.mp hp).2.2.2.2]; rfl

/-- every `Ok` of `Unpaired::ci_mean` at exact reals is `Δmean ∓ c·sem` with `c` the answer to the
    request for the effective degrees of freedom `ν`, and `ν > 0` -/
theorem unpaired_ok_bounds (crit : Crit Rex) (u : Unpaired Rex) (conf : Confidence Rex)
    (i : Interval Rex) (h : Unpaired.ciMean crit u conf = .ok i) :
    0 < (Unpaired.dofF u).val ∧ probOk conf.quantile = true ∧
    (conf.kind = .twoSided → i = .twoSided
        ⟨(Unpaired.meanDiff u).val - (crit (critReq conf (Unpaired.dofF u))).val * (Unpaired.semF u).val⟩
        ⟨(Unpaired.meanDiff u).val + (crit (critReq conf (Unpaired.dofF u))).val * (Unpaired.semF u).val⟩) ∧
    (conf.kind = .upper → i = .upper
        ⟨(Unpaired.meanDiff u).val - (crit (critReq conf (Unpaired.dofF u))).val * (Unpaired.semF u).val⟩) ∧
    (conf.kind = .lower → i = .lower
        ⟨(Unpaired.meanDiff u).val + (crit (critReq conf (Unpaired.dofF u))).val * (Unpaired.semF u).val⟩) := by
  obtain ⟨h1, h2, _, _, _, hq, h⟩ := Unpaired.ciMean_eq_ok_iff.mp h
  have hd : 0 < (Unpaired.dofF u).val := MeanLemmas.Unpaired.dofW_pos u h1 h2
  obtain ⟨k1, ku, kl⟩ := intervalOfKind_eq_ok h
  exact ⟨hd, hq, fun hk => (k1 hk).1, ku, kl⟩

/-- two-sided `Unpaired::ci_mean`: IF the external routines invert the CDFs THEN the critical value
    read off the returned interval, `(hi − lo)/2/sem`, has CDF value `(1+L)/2` — Student-t with the
    real-valued effective degrees of freedom `ν` (`unpaired_dof_val`) below the limit, normal from it on -/
theorem unpaired_twoSided_cdf (Ft Qt : ℝ → ℝ → ℝ) (Φ Qz : ℝ → ℝ)
    (hQt : ∀ ν : ℝ, 0 < ν → ∀ p ∈ Set.Ioo (0 : ℝ) 1, Ft ν (Qt ν p) = p)
    (hQz : ∀ p ∈ Set.Ioo (0 : ℝ) 1, Φ (Qz p) = p)
    (crit : Crit Rex) (hc : Implements crit Qt Qz)
    (u : Unpaired Rex) (l lo hi : Rex) (hv : Confidence.validLevel l = true)
    (h : Unpaired.ciMean crit u (.twoSided l) = .ok (.twoSided lo hi))
    (hsem : (Unpaired.semF u).val ≠ 0) :
    ((Unpaired.dofF u).val < 100000 →
      Ft (Unpaired.dofF u).val ((hi.val - lo.val) / 2 / (Unpaired.semF u).val) = (1 + l.val) / 2) ∧
    (100000 ≤ (Unpaired.dofF u).val →
      Φ ((hi.val - lo.val) / 2 / (Unpaired.semF u).val) = (1 + l.val) / 2) := by
  obtain ⟨hd, _, h1, _, _⟩ := unpaired_ok_bounds crit u _ _ h
  obtain ⟨rfl, rfl⟩ := Interval.twoSided.inj (h1 rfl)
  rw [show (_ - _) / 2 / (Unpaired.semF u).val = _ from (c_of_bounds _ _ hsem).1]
  exact crit_cdf Ft Qt Φ Qz hQt hQz crit hc (.twoSided l) hv (Unpaired.dofF u) hd

/-- the hypotheses are satisfiable: the samples `1, 2` and `1, 2` with `c = 2` -/
example : ∃ lo hi : Rex,
    Unpaired.ciMean (constCrit 2 : Crit Rex) ⟨Examples.a12, Examples.a12⟩ (.twoSided (inj 0.95)) =
      .ok (.twoSided lo hi) ∧
    (Unpaired.semF (⟨Examples.a12, Examples.a12⟩ : Unpaired Rex)).val ≠ 0 := Examples.unpaired_ok

/-- the `z` of a proportion interval: `ci_wilson` asks the normal quantile for the same probability,
    once; under the inverse hypothesis `Φ z = (1+L)/2` resp. `L`. (`ci_wilson` clamps its bounds into
    `[0, 1]`; in exact arithmetic both Wilson roots are proportions, so the clamp is inert and the
    result is still the plain constructor `finish` on centre ∓ span at that `z`:
    `Wilson.bounds_unit`, `Proportion.finishWilson_eq_finish`.) -/
theorem proportion_z (Φ Qz : ℝ → ℝ) (hQz : ∀ p ∈ Set.Ioo (0 : ℝ) 1, Φ (Qz p) = p)
    (crit : Crit Rex) (hcz : ∀ p : Rex, (crit (.z p)).val = Qz p.val)
    (conf : Confidence Rex) (hv : Confidence.validLevel conf.level = true) :
    zValue crit conf = .ok (crit (.z conf.quantile)) ∧
    Φ (crit (.z conf.quantile)).val = target conf ∧
    (∀ n k : Nat, k ≤ n → 2 ≤ k → 2 ≤ n - k →
      Proportion.ciWilson crit conf n k =
        Proportion.finish conf
          (Proportion.wilsonCentre (Scalar.ofNat n) (Scalar.ofNat k) (crit (.z conf.quantile)))
          (Proportion.wilsonSpan (Scalar.ofNat n) (Scalar.ofNat k) (crit (.z conf.quantile)))) ∧
    (∀ n k : Nat, k ≤ n → 10 ≤ k → 10 ≤ n - k →
      Proportion.ciZNormal crit conf n k =
        Proportion.finish conf (Proportion.waldP n k)
          (mul (crit (.z conf.quantile)) (Proportion.waldSd n k))) := by
  have hq := Confidence.probOk_of_valid_Rex conf hv
  refine ⟨zValue_eq crit conf hq, ?_, ?_, ?_⟩
  · rw [hcz, quantile_map]; exact hQz _ (target_mem_Ioo conf hv)
  · intro n k h1 h2 h3
    obtain ⟨b1, b2, b3, b4⟩ := Wilson.bounds_unit n k (by omega) (by omega) (Wilson.zOf crit conf)
    rw [Proportion.ciWilson_dom crit conf n k h2 (by omega), if_pos hq]
    apply Proportion.finishWilson_eq_finish <;>
      rw [(Wilson.wilson_val n k _).1, (Wilson.wilson_val n k _).2] <;> assumption
  · intro n k h1 h2 h3
    rw [Proportion.ciZNormal_eq, if_neg (Nat.not_lt.mpr h1), if_neg (Nat.not_lt.mpr h2),
      if_neg (Nat.not_lt.mpr h3), if_pos hq]
