/-
  C19 — Approximate comparison of two intervals holds exactly when both are of the same kind and
  every corresponding bound compares approximately equal under the same tolerance; it is reflexive
  and symmetric, implied by exact equality, and never relates intervals of different kinds.
  `Display` renders exactly "[low, high]", "[low,->)" and "(<-,high]" with the element type's own
  formatting.

  `Interval.approxEq e` is the common shape of `abs_diff_eq` / `relative_eq` / `ulps_eq`: `e` is the
  element predicate with the tolerance(s) already applied (the same `e` for both bounds, i.e. the
  same tolerance). All theorems hold for an ARBITRARY element predicate `e` and element type.
-/
import StatsCI.Lemmas.Order

namespace StatsCI.C19
open StatsCI Interval
variable {α : Type}

theorem approx_iff (e : α → α → Bool) (a b : Interval α) :
    approxEq e a b = true ↔
      (∃ x y u v, a = .twoSided x y ∧ b = .twoSided u v ∧ e x u = true ∧ e y v = true) ∨
      (∃ x u, a = .upper x ∧ b = .upper u ∧ e x u = true) ∨
      (∃ y v, a = .lower y ∧ b = .lower v ∧ e y v = true) := by
  constructor
  · intro h
    cases a <;> cases b <;> simp only [approxEq, Bool.and_eq_true, Bool.false_eq_true] at h
    · exact .inl ⟨_, _, _, _, rfl, rfl, h⟩
    · exact .inr (.inl ⟨_, _, rfl, rfl, h⟩)
    · exact .inr (.inr ⟨_, _, rfl, rfl, h⟩)
  · rintro (⟨x, y, u, v, rfl, rfl, h⟩ | ⟨x, u, rfl, rfl, h⟩ | ⟨y, v, rfl, rfl, h⟩)
    · exact (Bool.and_eq_true _ _).mpr h
    · exact h
    · exact h

/-- Read through the kind predicates and the accessors. This is the form the relational
    properties below follow from, with no further case split. -/
theorem approx_iff_bounds (e : α → α → Bool) (a b : Interval α) :
    approxEq e a b = true ↔
      (a.isTwoSided = b.isTwoSided ∧ a.isUpper = b.isUpper ∧ a.isLower = b.isLower) ∧
      (∀ x u, a.left = some x → b.left = some u → e x u = true) ∧
      (∀ y v, a.right = some y → b.right = some v → e y v = true) := by
  cases a <;> cases b <;>
    simp only [approxEq, isTwoSided, isUpper, isLower, left, right, Bool.and_eq_true,
      Option.some.injEq, reduceCtorEq, forall_eq', forall_apply_eq_imp_iff, and_self,
      true_and, and_true, and_false, false_and, Bool.false_eq_true, Bool.true_eq_false,
      IsEmpty.forall_iff, implies_true]

theorem approx_refl (e : α → α → Bool) (he : ∀ x, e x x = true) (a : Interval α) :
    approxEq e a a = true :=
  (approx_iff_bounds e a a).mpr ⟨⟨rfl, rfl, rfl⟩,
    fun x _ hx hu => Option.some.inj (hx.symm.trans hu) ▸ he x,
    fun y _ hy hv => Option.some.inj (hy.symm.trans hv) ▸ he y⟩

theorem approx_symm' (e : α → α → Bool) (he : ∀ x y, e x y = true → e y x = true)
    (a b : Interval α) (h : approxEq e a b = true) : approxEq e b a = true := by
  obtain ⟨⟨k1, k2, k3⟩, hl, hr⟩ := (approx_iff_bounds e a b).mp h
  exact (approx_iff_bounds e b a).mpr ⟨⟨k1.symm, k2.symm, k3.symm⟩,
    fun x u hx hu => he u x (hl u x hu hx), fun y v hy hv => he v y (hr v y hv hy)⟩

theorem approx_symm (e : α → α → Bool) (he : ∀ x y, e x y = e y x) (a b : Interval α) :
    approxEq e a b = approxEq e b a :=
  Bool.eq_iff_iff.mpr ⟨approx_symm' e (fun x y h => he x y ▸ h) a b,
    approx_symm' e (fun x y h => he x y ▸ h) b a⟩

theorem approx_of_eq (e : α → α → Bool) (he : ∀ x, e x x = true) (a b : Interval α) (h : a = b) :
    approxEq e a b = true := by
  subst h; exact approx_refl e he a

theorem approx_of_beq [LinearOrder α] (e : α → α → Bool) (he : ∀ x, e x x = true)
    (a b : Interval α) (h : @Interval.beq α (Cmp.ofLinearOrder α) a b = true) :
    approxEq e a b = true :=
  approx_of_eq e he a b ((Interval.beq_iff_eq a b).mp h)

theorem approx_diff_kind (e : α → α → Bool) (a b : Interval α)
    (h : a.isTwoSided ≠ b.isTwoSided ∨ a.isUpper ≠ b.isUpper ∨ a.isLower ≠ b.isLower) :
    approxEq e a b = false := by
  rw [Bool.eq_false_iff, Ne, approx_iff_bounds]
  exact fun ⟨⟨k1, k2, k3⟩, _⟩ => h.elim (· k1) (·.elim (· k2) (· k3))

theorem approx_diff_kind_table (e : α → α → Bool) (x y z : α) :
    approxEq e (.twoSided x y) (.upper z) = false ∧ approxEq e (.twoSided x y) (.lower z) = false ∧
    approxEq e (.upper z) (.twoSided x y) = false ∧ approxEq e (.lower z) (.twoSided x y) = false ∧
    approxEq e (.upper x) (.lower x) = false ∧ approxEq e (.lower x) (.upper x) = false :=
  ⟨rfl, rfl, rfl, rfl, rfl, rfl⟩

theorem display_shapes (fmt : α → String) (lo hi : α) :
    display fmt (.twoSided lo hi) = "[" ++ fmt lo ++ ", " ++ fmt hi ++ "]" ∧
    display fmt (.upper lo) = "[" ++ fmt lo ++ ",->)" ∧
    display fmt (.lower hi) = "(<-," ++ fmt hi ++ "]" :=
  ⟨rfl, rfl, rfl⟩

theorem display_cases (fmt : α → String) (i : Interval α) :
    (∃ lo hi, i = .twoSided lo hi ∧ display fmt i = "[" ++ fmt lo ++ ", " ++ fmt hi ++ "]") ∨
    (∃ lo, i = .upper lo ∧ display fmt i = "[" ++ fmt lo ++ ",->)") ∨
    (∃ hi, i = .lower hi ∧ display fmt i = "(<-," ++ fmt hi ++ "]") := by
  cases i with
  | twoSided lo hi => exact .inl ⟨lo, hi, rfl, rfl⟩
  | upper lo => exact .inr (.inl ⟨lo, rfl, rfl⟩)
  | lower hi => exact .inr (.inr ⟨hi, rfl, rfl⟩)

/-! non-vacuity: a reflexive symmetric tolerance predicate on ℤ (`|x - y| ≤ 1`), and concrete
    renderings -/
example : let e : ℤ → ℤ → Bool := fun x y => decide ((x - y).natAbs ≤ 1)
    (∀ x, e x x = true) ∧ (∀ x y, e x y = e y x) ∧
    approxEq e (.twoSided 1 5) (.twoSided 2 4) = true ∧
    approxEq e (.twoSided 1 5) (.twoSided 3 4) = false ∧
    approxEq e (.upper 1) (.lower 1) = false := by
  refine ⟨by intro x; simp, ?_, by decide, by decide, by decide⟩
  intro x y
  have : (x - y).natAbs = (y - x).natAbs := by rw [← Int.natAbs_neg]; congr 1; omega
  simp [this]

example : display (fun n : ℤ => toString n) (.twoSided 1 2) = "[1, 2]" ∧
    display (fun n : ℤ => toString n) (.upper 1) = "[1,->)" ∧
    display (fun n : ℤ => toString n) (.lower 2) = "(<-,2]" := by
  refine ⟨by decide, by decide, by decide⟩

end StatsCI.C19
