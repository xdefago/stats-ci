/-
  StatsCI.Lemmas.MeanLog — geometric and harmonic means at exact arithmetic, and the
  inequality harmonic ≤ geometric ≤ arithmetic mean for positive real lists.
-/
import StatsCI.Lemmas.MeanExact
import StatsCI.Lemmas.KindForm
import Mathlib.Analysis.SpecialFunctions.Exp
import Mathlib.Analysis.SpecialFunctions.Log.Basic

namespace StatsCI.MeanLemmas
open StatsCI NumOps Scalar

theorem gm_le_am (xs : List ℝ) (hne : xs ≠ []) (hpos : ∀ x ∈ xs, 0 < x) :
    Real.exp (smean (xs.map Real.log)) ≤ smean xs := by
  have hn : 0 < (xs.length : ℝ) := Nat.cast_pos.mpr (List.length_pos_of_ne_nil hne)
  have hL : (xs.length : ℝ) * smean (xs.map Real.log) = (xs.map Real.log).sum := by
    unfold smean
    rw [List.length_map]
    exact mul_div_cancel₀ _ hn.ne'
  -- `t + 1 ≤ exp t` at `t = ln x - L`, where `exp t = x / exp L`, summed at `L = mean ln x`,
  -- gives `n ≤ Σx / exp L`
  have h : ((xs.map Real.log).map (fun t => t + (1 - smean (xs.map Real.log)))).sum ≤
      (xs.map (fun x => x / Real.exp (smean (xs.map Real.log)))).sum := by
    rw [List.map_map]
    refine List.sum_le_sum fun x hx => ?_
    have h1 := Real.add_one_le_exp (Real.log x - smean (xs.map Real.log))
    rwa [Real.exp_sub, Real.exp_log (hpos x hx), sub_add_eq_add_sub, add_sub_assoc] at h1
  rw [sum_map_add_const, List.length_map, sum_map_div_const, mul_sub, mul_one, hL, add_sub_cancel,
    le_div_iff₀ (Real.exp_pos _), mul_comm] at h
  exact (le_div_iff₀ hn).mpr h

theorem hm_le_gm (xs : List ℝ) (hne : xs ≠ []) (hpos : ∀ x ∈ xs, 0 < x) :
    1 / smean (xs.map (fun x => 1 / x)) ≤ Real.exp (smean (xs.map Real.log)) := by
  have hne' : xs.map (fun x => 1 / x) ≠ [] := by simpa using hne
  have h := gm_le_am _ hne'
    (List.forall_mem_map.mpr fun x hx => one_div_pos.mpr (hpos x hx))
  have hlog : (xs.map (fun x => 1 / x)).map Real.log = xs.map (fun x => -Real.log x) := by
    rw [List.map_map]
    apply List.map_congr_left
    intro x _
    simp [Function.comp, Real.log_inv]
  rw [hlog, smean_map_neg] at h
  have h2 := one_div_le_one_div_of_le (Real.exp_pos _) h
  rw [Real.exp_neg, one_div, one_div, inv_inv] at h2
  rw [one_div]
  exact h2

theorem map_inj_map {fl : ℝ → ℝ} (f : ℝ → ℝ) (g : RR fl → RR fl)
    (hg : ∀ x : ℝ, g (inj x) = inj (fl (f x))) (xs : List ℝ) :
    (xs.map inj).map g = ((xs.map f).map fl).map inj := by
  rw [List.map_map, List.map_map, List.map_map]
  exact List.map_congr_left fun x _ => hg x

/-- the comparison `x <= 0` is not rounded -/
theorem accepted_of_pos {fl : ℝ → ℝ} (xs : List ℝ) (hpos : ∀ x ∈ xs, 0 < x) :
    ∀ y ∈ (xs.map inj : List (RR fl)), le y (zero : RR fl) = false := by
  intro y hy
  simp only [List.mem_map] at hy
  obtain ⟨x, hx, rfl⟩ := hy
  rw [Bool.eq_false_iff, Ne, RR.le_iff]
  simpa using hpos x hx

theorem Geometric.fromList_inj {fl : ℝ → ℝ} (xs : List ℝ) (hpos : ∀ x ∈ xs, 0 < x) :
    (Geometric.fromList (xs.map inj) : Outcome (Err (RR fl)) (Geometric (RR fl))) =
      .ok ⟨Arith.fromList (((xs.map Real.log).map fl).map inj)⟩ := by
  rw [Geometric.fromList_eq, find?_nonpos_eq_none (accepted_of_pos xs hpos),
    map_inj_map Real.log Scalar.ln (fun _ => rfl)]

theorem Harmonic.fromList_inj {fl : ℝ → ℝ} (xs : List ℝ) (hpos : ∀ x ∈ xs, 0 < x) :
    (Harmonic.fromList (xs.map inj) : Outcome (Err (RR fl)) (Harmonic (RR fl))) =
      .ok ⟨Arith.fromList (((xs.map (fun x => 1 / x)).map fl).map inj)⟩ := by
  rw [Harmonic.fromList_eq, find?_nonpos_eq_none (accepted_of_pos xs hpos),
    map_inj_map (fun x => 1 / x) (fun x => div one x) (fun _ => rfl)]

theorem Geometric.fromList_rex (xs : List ℝ) (hpos : ∀ x ∈ xs, 0 < x) :
    (Geometric.fromList (xs.map inj) : Outcome (Err Rex) (Geometric Rex)) =
      .ok ⟨Arith.fromList ((xs.map Real.log).map inj)⟩ := by
  have := Geometric.fromList_inj (fl := id) xs hpos
  rwa [List.map_id] at this

theorem Harmonic.fromList_rex (xs : List ℝ) (hpos : ∀ x ∈ xs, 0 < x) :
    (Harmonic.fromList (xs.map inj) : Outcome (Err Rex) (Harmonic Rex)) =
      .ok ⟨Arith.fromList ((xs.map (fun x => 1 / x)).map inj)⟩ := by
  have := Harmonic.fromList_inj (fl := id) xs hpos
  rwa [List.map_id] at this

theorem Geometric.ciMean_rex (crit : Crit Rex) (g : Geometric Rex) (conf : Confidence Rex) :
    g.ciMean crit conf = (g.logs.ciMean crit conf).map (Interval.map Scalar.exp) := by
  rw [Coherence.Geometric.kindForm crit g conf, Arith.ciMean_eq_finish,
    Coherence.finish_eq_tailBounds, Outcome.map_bind]
  congr 1
  funext b
  rw [intervalOfKind_map conf Scalar.exp b.1 b.2 (gt_congr Real.exp_lt_exp), intervalOfKind_eq]
  split <;> rfl

/-- the reciprocal-space interval of the data `1, 1/3` (reciprocals `1, 3`: mean `2`,
    `s/√n = √2/√2 = 1`) at a constant critical value `c`, for the non-vacuity examples of C05 -/
theorem Arith.ci_recip_one_third (c : ℝ) (hc : 0 ≤ c) (l : Rex) (h0 : 0 < l.val) (h1 : l.val < 1) :
    Arith.ci (constCrit c) (Confidence.twoSided l).flipped
      (([(1 : ℝ), 1 / 3].map (fun x => 1 / x)).map inj : List Rex) =
      .ok (.twoSided (⟨2 - c⟩ : Rex) ⟨2 + c⟩) := by
  have hl : [(1 : ℝ), 1 / 3].map (fun x => 1 / x) = [1, 3] := by norm_num
  have hm : smean [1, 3] = 2 := by unfold smean; norm_num
  have hs : ssd [1, 3] = Real.sqrt 2 := congrArg Real.sqrt MeanRound.svar_one_three
  have hw : halfWidth (constCrit c) (.twoSided l) [1, 3] = c := by
    show c * ssd [1, 3] / Real.sqrt ((2 : ℕ) : ℝ) = c
    rw [hs, Nat.cast_ofNat, mul_div_assoc, div_self (Real.sqrt_ne_zero'.mpr two_pos), mul_one]
  rw [hl, show (Confidence.twoSided l).flipped = .twoSided l from rfl,
    Arith.ci_rex _ _ _ (le_refl 2) (probOk_quantile (.twoSided l) h0 h1), hw, hm, intervalOfKind_pm]
  exact if_pos hc

end StatsCI.MeanLemmas
