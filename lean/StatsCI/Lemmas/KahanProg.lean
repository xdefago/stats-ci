/-
  StatsCI.Lemmas.KahanProg — the invariant `G` along an arbitrary accumulation history (`Prog`).
  The budgets are defined by recursion over the history, node by node what the model does there
  (`merge` is two steps and a re-targeting), so the induction over the tree only collects the
  steps. In closed form the error rate is first order in the right-depth alone, `eps`. Exact
  arithmetic is the case `u = 0`, `fl = id`, where the budgets vanish and the invariant pins the
  register down. First, for any carrier: what `Prog.map` keeps, and that the two registers of
  `evalA` are `evalK` of the history and of the history of squares.
-/
import StatsCI.Lemmas.Kahan
import StatsCI.Model.Program
import Mathlib.Tactic.Positivity

namespace StatsCI
namespace KahanLemmas
open Rounding

section generic
variable {α β γ : Type}

theorem data_map (f : α → β) (p : Prog α) : (p.map f).data = p.data.map f := by
  induction p <;> simp [Prog.map, Prog.data, *]

theorem map_map (f : α → β) (g : β → γ) (p : Prog α) : (p.map f).map g = p.map (g ∘ f) := by
  induction p <;> simp [Prog.map, *]

theorem steps_map (f : α → β) (p : Prog α) : (p.map f).steps = p.steps := by
  induction p <;> simp [Prog.map, Prog.steps, *]

theorem rdepth_map (f : α → β) (p : Prog α) : (p.map f).rdepth = p.rdepth := by
  induction p <;> simp [Prog.map, Prog.rdepth, *]

variable [Scalar α]

theorem evalA_fields (p : Prog α) :
    p.evalA.sum = p.evalK ∧
    p.evalA.sumSq = (p.map fun x => NumOps.mul x x).evalK ∧
    p.evalA.count = p.data.length := by
  induction p with
  | empty => exact ⟨rfl, rfl, rfl⟩
  | append p x ih =>
    obtain ⟨h1, h2, h3⟩ := ih
    exact ⟨congrArg (·.add x) h1, congrArg (·.add (NumOps.mul x x)) h2,
      by simp [Prog.evalA, Arith.append, Prog.data, h3]⟩
  | extend p xs ih =>
    obtain ⟨h1, h2, h3⟩ := ih
    obtain ⟨e1, e2, e3⟩ := Arith.extend_fields xs p.evalA
    exact ⟨e1.trans (congrArg (·.addList xs) h1),
      e2.trans (congrArg (·.addList (xs.map fun x => NumOps.mul x x)) h2),
      by simp [Prog.evalA, Prog.data, e3, h3]⟩
  | merge l r ihl ihr =>
    obtain ⟨l1, l2, l3⟩ := ihl
    obtain ⟨r1, r2, r3⟩ := ihr
    exact ⟨congrArg₂ Kahan.merge l1 r1, congrArg₂ Kahan.merge l2 r2,
      by simp [Prog.evalA, Arith.merge, Prog.data, l3, r3]⟩

end generic

/-- magnitude budget and error allowance `(Tb, Eb)` of an accumulation history.
    `merge l r` is two model steps fed with `r.sum` and `r.comp`, whose magnitudes are together at
    most `X = Σ|data r| + Eb r + 6u·Tb r`; re-targeting from `s_r + c_r` to the exact sum of the
    right operand costs `Eb r + 6u·Tb r` (the crate adds `+r.comp` while the register tracks
    `sum − comp`). -/
noncomputable def budget (u : ℝ) : Prog ℝ → ℝ × ℝ
  | .empty => (0, 0)
  | .append p x => teStep u (budget u p) x
  | .extend p xs => xs.foldl (teStep u) (budget u p)
  | .merge l r =>
    ((budget u l).1 + (sumAbs r.data + (budget u r).2 + 6 * u * (budget u r).1),
     (budget u l).2 + (budget u r).2 + 6 * u * (budget u r).1
       + 2 * u * (sumAbs r.data + (budget u r).2 + 6 * u * (budget u r).1)
       + 18 * u ^ 2 * ((budget u l).1 + (sumAbs r.data + (budget u r).2 + 6 * u * (budget u r).1)))

noncomputable def Tb (u : ℝ) (p : Prog ℝ) : ℝ := (budget u p).1
noncomputable def Eb (u : ℝ) (p : Prog ℝ) : ℝ := (budget u p).2

/-- the node-wise side condition `Eb ≤ Tb/4` (at every node of the history, and after every
    element of every `extend`) -/
def Ok (u : ℝ) : Prog ℝ → Prop
  | .empty => True
  | .append p x => Ok u p ∧ Eb u (.append p x) ≤ Tb u (.append p x) / 4
  | .extend p xs => Ok u p ∧ OkList u (budget u p) xs
  | .merge l r => Ok u l ∧ Ok u r ∧ Eb u (.merge l r) ≤ Tb u (.merge l r) / 4

theorem Tb_empty (u : ℝ) : Tb u .empty = 0 := rfl
theorem Eb_empty (u : ℝ) : Eb u .empty = 0 := rfl
theorem Tb_append (u : ℝ) (p : Prog ℝ) (x : ℝ) : Tb u (.append p x) = Tb u p + |x| := rfl
theorem Eb_append (u : ℝ) (p : Prog ℝ) (x : ℝ) :
    Eb u (.append p x) = Eb u p + 2 * u * |x| + 9 * u ^ 2 * (Tb u p + |x|) := rfl
theorem Tb_merge (u : ℝ) (l r : Prog ℝ) :
    Tb u (.merge l r) = Tb u l + (sumAbs r.data + Eb u r + 6 * u * Tb u r) := rfl
theorem Eb_merge (u : ℝ) (l r : Prog ℝ) :
    Eb u (.merge l r) = Eb u l + Eb u r + 6 * u * Tb u r
      + 2 * u * (sumAbs r.data + Eb u r + 6 * u * Tb u r)
      + 18 * u ^ 2 * (Tb u l + (sumAbs r.data + Eb u r + 6 * u * Tb u r)) := rfl
theorem budget_extend (u : ℝ) (p : Prog ℝ) (xs : List ℝ) :
    budget u (.extend p xs) = xs.foldl (teStep u) (budget u p) := rfl
theorem Tb_extend (u : ℝ) (p : Prog ℝ) (xs : List ℝ) :
    Tb u (.extend p xs) = Tb u p + sumAbs xs := foldl_teStep_fst u xs _

theorem okList_end {u : ℝ} : ∀ (xs : List ℝ) (te : ℝ × ℝ), te.2 ≤ te.1 / 4 → OkList u te xs →
    (xs.foldl (teStep u) te).2 ≤ (xs.foldl (teStep u) te).1 / 4
  | [], _, h, _ => h
  | x :: xs, te, _, hok => okList_end xs (teStep u te x) hok.1 hok.2

theorem Ok.root {u : ℝ} : ∀ {p : Prog ℝ}, Ok u p → Eb u p ≤ Tb u p / 4
  | .empty, _ => by simp [Tb_empty, Eb_empty]
  | .append _ _, h => h.2
  | .extend p xs, h => okList_end xs (budget u p) (Ok.root h.1) h.2
  | .merge _ _, h => h.2.2

theorem le_teStep_snd {u : ℝ} (hu : 0 ≤ u) {te : ℝ × ℝ} (x : ℝ) (h0 : 0 ≤ te.1) :
    te.2 ≤ (teStep u te x).2 :=
  le_add_of_le_of_nonneg (le_add_of_nonneg_right (by positivity)) (by positivity)

theorem le_foldl_teStep_snd {u : ℝ} (hu : 0 ≤ u) : ∀ (xs : List ℝ) (te : ℝ × ℝ), 0 ≤ te.1 →
    te.2 ≤ (xs.foldl (teStep u) te).2
  | [], _, _ => le_rfl
  | x :: xs, te, h0 => (le_teStep_snd hu x h0).trans
      (le_foldl_teStep_snd hu xs (teStep u te x) (add_nonneg h0 (abs_nonneg x)))

theorem budget_facts {u : ℝ} (hu : 0 ≤ u) (p : Prog ℝ) :
    0 ≤ Eb u p ∧ sumAbs p.data ≤ Tb u p := by
  induction p with
  | empty => simp [Tb_empty, Eb_empty, Prog.data]
  | append p x ih =>
    obtain ⟨h1, h2⟩ := ih
    simp only [Prog.data, sumAbs_append, sumAbs_singleton]
    exact ⟨h1.trans (le_teStep_snd hu x ((sumAbs_nonneg _).trans h2)), add_le_add h2 le_rfl⟩
  | extend p xs ih =>
    obtain ⟨h1, h2⟩ := ih
    simp only [Tb_extend, Prog.data, sumAbs_append]
    exact ⟨h1.trans (le_foldl_teStep_snd hu xs _ ((sumAbs_nonneg _).trans h2)),
      add_le_add h2 le_rfl⟩
  | merge l r ihl ihr =>
    obtain ⟨l1, l2⟩ := ihl
    obtain ⟨r1, r2⟩ := ihr
    have hAr := sumAbs_nonneg r.data
    have hTl := (sumAbs_nonneg l.data).trans l2
    have hTr := hAr.trans r2
    rw [Eb_merge, Tb_merge]
    simp only [Prog.data, sumAbs_append]
    exact ⟨by positivity, add_le_add l2
      ((le_add_of_nonneg_right r1).trans (le_add_of_nonneg_right (by positivity)))⟩

variable {fl : ℝ → ℝ}

/-- `merge` is two model steps, fed with `r.sum` and `r.comp`, of magnitudes together at most `X`,
    then re-targeting from `S_l + s_r + c_r` to `S_l + S_r` -/
theorem merge_inv {u : ℝ} (hu : 0 ≤ u) (hu' : u ≤ 1 / 64) (hfl : ∀ x, |fl x - x| ≤ u * |x|)
    {Sl Tl El Sr Tr Er Ar X E' : ℝ} {k r : Kahan (RR fl)}
    (hl : G u Sl Tl El k.sum.val k.comp.val) (hr : Inv u Sr Tr Er r.sum.val r.comp.val)
    (hA : |Sr| ≤ Ar) (hX : X = Ar + Er + 6 * u * Tr)
    (hE : E' = El + Er + 6 * u * Tr + 2 * u * X + 18 * u ^ 2 * (Tl + X))
    (hm : E' ≤ (Tl + X) / 4) :
    G u (Sl + Sr) (Tl + X) E' (k.merge r).sum.val (k.merge r).comp.val := by
  subst hX hE
  have hsr : |r.sum.val| ≤ Ar + Er + 3 * u * Tr := by linear_combination hr.abs_s_le + hA
  have hEr : 0 ≤ Er := (abs_nonneg _).trans hr.he
  have huT : 0 ≤ u * Tr := mul_nonneg hu hr.T_nonneg
  have p2 : 0 ≤ u ^ 2 * (Tl + (Ar + Er + 3 * u * Tr)) :=
    mul_nonneg (sq_nonneg u) (add_nonneg hl.T_nonneg ((abs_nonneg _).trans hsr))
  have p3 : 0 ≤ u ^ 2 * (u * Tr) := mul_nonneg (sq_nonneg u) huT
  have p4 : 0 ≤ u * (u * Tr) := mul_nonneg hu huT
  have h1 := step_inv_le hu hu' hfl hl hsr
  -- the second step needs the side condition of the state between the two, `E₁ ≤ (Tl + X₁) / 4` with
  -- `X₁ = X - 3u·Tr`; the final one `hm` gives it: `E'` exceeds `E₁` by at least `Er + 6u·Tr`, while
  -- `Tl + X` exceeds `Tl + X₁` by `3u·Tr` only
  have h2 := step_inv_le hu hu' hfl
    (h1.toG (by linear_combination hm + hEr + 21 / 4 * huT + 6 * p4 + 9 * p2 + 54 * p3)) hr.hc
  refine (inv_retarget h2 hu ?_ (le_of_eq (by ring)) ?_).toG hm
  · rw [add_assoc, add_sub_add_left_eq_sub, abs_sub_comm]
    linear_combination trans_close (abs_add_sub_sub _ _).le hr.he + 2 * hr.hc + 27 * p3
  · linear_combination abs_add_le Sl Sr + hl.hT + hA + hEr + 6 * huT

theorem prog_inv {u : ℝ} (hu : 0 ≤ u) (hu' : u ≤ 1 / 64) (hfl : ∀ x, |fl x - x| ≤ u * |x|) :
    ∀ (p : Prog ℝ), Ok u p →
      G u p.data.sum (Tb u p) (Eb u p)
        ((p.map inj).evalK : Kahan (RR fl)).sum.val ((p.map inj).evalK : Kahan (RR fl)).comp.val
  | .empty, _ => G.empty u
  | .append p x, hok => by
    rw [Prog.data, List.sum_append, List.sum_singleton]
    exact g_step hu hu' hfl _ _ _ _ (inj x) (prog_inv hu hu' hfl p hok.1) hok.2
  | .extend p xs, hok => by
    rw [Prog.data, List.sum_append]
    exact addList_inv hu hu' hfl xs _ (budget u p) _ (prog_inv hu hu' hfl p hok.1) hok.2
  | .merge l r, hok => by
    rw [Prog.data, List.sum_append]
    exact merge_inv hu hu' hfl (prog_inv hu hu' hfl l hok.1) (prog_inv hu hu' hfl r hok.2.1).inv
      (abs_sum_le_sumAbs r.data) rfl rfl hok.2.2

/-- relative allowance at right-depth `d` after `n` elementary steps -/
noncomputable def eps (u : ℝ) (d n : ℕ) : ℝ := (2 + 10 * d) * u + 12 * n * u ^ 2

theorem eps_mono {u : ℝ} (hu : 0 ≤ u) {d d' n n' : ℕ} (hd : d ≤ d') (hn : n ≤ n') :
    eps u d n ≤ eps u d' n' := by
  have g1 : (d : ℝ) * u ≤ d' * u := mul_le_mul_of_nonneg_right (Nat.cast_le.mpr hd) hu
  have g2 : (n : ℝ) * u ^ 2 ≤ n' * u ^ 2 :=
    mul_le_mul_of_nonneg_right (Nat.cast_le.mpr hn) (sq_nonneg u)
  unfold eps
  linear_combination 10 * g1 + 12 * g2

theorem two_u_le_eps {u : ℝ} (hu : 0 ≤ u) (d n : ℕ) : 2 * u ≤ eps u d n :=
  (by simp [eps] : 2 * u = eps u 0 0).trans_le (eps_mono hu (Nat.zero_le d) (Nat.zero_le n))

theorem eps_add (u : ℝ) (d n m : ℕ) : eps u d (n + m) = eps u d n + m * (12 * u ^ 2) := by
  unfold eps; push_cast; ring

theorem eps_succ (u : ℝ) (d n : ℕ) : eps u d (n + 1) = eps u d n + 12 * u ^ 2 := by
  simpa using eps_add u d n 1

/-- closed form of the merge recursion: with `T ≤ 5/4·A` the right operand's rate is charged
    `10u = (6 + 2)·5/4·u` (re-targeting and its own step) and both sides `24u² ≥ 18·5/4·u²` -/
theorem merge_closed {u el er em Al Ar Tl Tr El Er : ℝ} (hu : 0 ≤ u) (hu' : u ≤ 1 / 64)
    (hAl : 0 ≤ Al) (hAr : 0 ≤ Ar) (hTl : Tl ≤ 5 / 4 * Al) (hTr : Tr ≤ 5 / 4 * Ar)
    (hEl : El ≤ el * Al) (hEr : Er ≤ er * Ar) (her : er ≤ 1 / 8)
    (h1 : el + 24 * u ^ 2 ≤ em) (h2 : er + 10 * u + 24 * u ^ 2 ≤ em) :
    Tl + (Ar + Er + 6 * u * Tr) ≤ 5 / 4 * (Al + Ar) ∧
    El + Er + 6 * u * Tr + 2 * u * (Ar + Er + 6 * u * Tr)
      + 18 * u ^ 2 * (Tl + (Ar + Er + 6 * u * Tr)) ≤ em * (Al + Ar) := by
  have a1 : er * Ar ≤ 1 / 8 * Ar := mul_le_mul_of_nonneg_right her hAr
  have a2 : u * Tr ≤ u * (5 / 4 * Ar) := mul_le_mul_of_nonneg_left hTr hu
  have a3 : u * Ar ≤ 1 / 64 * Ar := mul_le_mul_of_nonneg_right hu' hAr
  have hX : Ar + Er + 6 * u * Tr ≤ 5 / 4 * Ar := by
    linear_combination hEr + a1 + 6 * a2 + 15 / 2 * a3 + 1 / 128 * hAr
  have c1 : Tl + (Ar + Er + 6 * u * Tr) ≤ 5 / 4 * (Al + Ar) :=
    (add_le_add hTl hX).trans_eq (mul_add _ _ _).symm
  have a4 : u * (Ar + Er + 6 * u * Tr) ≤ u * (5 / 4 * Ar) := mul_le_mul_of_nonneg_left hX hu
  have a5 : u ^ 2 * (Tl + (Ar + Er + 6 * u * Tr)) ≤ u ^ 2 * (5 / 4 * (Al + Ar)) :=
    mul_le_mul_of_nonneg_left c1 (sq_nonneg u)
  have a6 : (el + 24 * u ^ 2) * Al ≤ em * Al := mul_le_mul_of_nonneg_right h1 hAl
  have a7 : (er + 10 * u + 24 * u ^ 2) * Ar ≤ em * Ar := mul_le_mul_of_nonneg_right h2 hAr
  have a8 : 0 ≤ u ^ 2 * (Al + Ar) := mul_nonneg (sq_nonneg u) (add_nonneg hAl hAr)
  exact ⟨c1, by linear_combination hEl + hEr + 6 * a2 + 2 * a4 + 18 * a5 + a6 + a7 + 3 / 2 * a8⟩

theorem budget_closed {u : ℝ} (hu : 0 ≤ u) (hu' : u ≤ 1 / 64) :
    ∀ (p : Prog ℝ), eps u p.rdepth p.steps ≤ 1 / 8 →
      Ok u p ∧ Tb u p ≤ 5 / 4 * sumAbs p.data ∧
        Eb u p ≤ eps u p.rdepth p.steps * sumAbs p.data := by
  intro p
  -- `τ = 5/4`, `δ = 12u²` in the closed form of a step
  have hτ : (1 : ℝ) ≤ 5 / 4 := by norm_num
  have hδ : 9 * (5 / 4) * u ^ 2 ≤ 12 * u ^ 2 :=
    mul_le_mul_of_nonneg_right (by norm_num) (sq_nonneg u)
  induction p with
  | empty => intro _; simp [Ok, Tb_empty, Eb_empty, Prog.data]
  | append p x ih =>
    intro hs
    obtain ⟨i1, i2, i3⟩ := ih ((eps_mono hu le_rfl (Nat.le_succ _)).trans hs)
    obtain ⟨s1, s3, s4⟩ := teStep_closed (x := x) (two_u_le_eps hu _ _) hτ hδ (sumAbs_nonneg _)
      (budget_facts hu p).2 i2 i3 ((eps_succ u _ _).symm.trans_le (hs.trans (by norm_num)))
    rw [← eps_succ] at s4
    simp only [Prog.data, sumAbs_append, sumAbs_singleton]
    exact ⟨⟨i1, s1⟩, s3, s4⟩
  | extend p xs ih =>
    intro hs
    obtain ⟨i1, i2, i3⟩ := ih ((eps_mono hu le_rfl (Nat.le_add_right _ _)).trans hs)
    obtain ⟨s1, s3, s4⟩ := foldl_teStep_closed hτ hδ xs _ _ _ (two_u_le_eps hu _ _)
      (sumAbs_nonneg _) (budget_facts hu p).2 i2 i3
      ((eps_add u _ _ _).symm.trans_le (hs.trans (by norm_num)))
    rw [← eps_add] at s4
    simp only [Prog.data, sumAbs_append]
    exact ⟨⟨i1, s1⟩, s3, s4⟩
  | merge l r ihl ihr =>
    intro hs
    have hdl : l.rdepth ≤ (Prog.merge l r).rdepth := le_max_left _ _
    have hdr : r.rdepth + 1 ≤ (Prog.merge l r).rdepth := le_max_right _ _
    have hnl : l.steps + 2 ≤ (Prog.merge l r).steps := by simp only [Prog.steps]; omega
    have hnr : r.steps + 2 ≤ (Prog.merge l r).steps := by simp only [Prog.steps]; omega
    -- the two gaps of `eps`: two more steps on either side, one more level on the right
    have g1 : eps u l.rdepth l.steps + 24 * u ^ 2
        ≤ eps u (Prog.merge l r).rdepth (Prog.merge l r).steps :=
      (by unfold eps; push_cast; ring : _ = eps u l.rdepth (l.steps + 2)).trans_le
        (eps_mono hu hdl hnl)
    have g2 : eps u r.rdepth r.steps + 10 * u + 24 * u ^ 2
        ≤ eps u (Prog.merge l r).rdepth (Prog.merge l r).steps :=
      (by unfold eps; push_cast; ring : _ = eps u (r.rdepth + 1) (r.steps + 2)).trans_le
        (eps_mono hu hdr hnr)
    have hsr : eps u r.rdepth r.steps ≤ 1 / 8 :=
      (eps_mono hu ((Nat.le_succ _).trans hdr) ((Nat.le_add_right _ _).trans hnr)).trans hs
    obtain ⟨l1, l2, l3⟩ := ihl ((eps_mono hu hdl ((Nat.le_add_right _ _).trans hnl)).trans hs)
    obtain ⟨r1, r2, r3⟩ := ihr hsr
    have hAl := sumAbs_nonneg l.data
    have hAr := sumAbs_nonneg r.data
    obtain ⟨c1, c2⟩ := merge_closed hu hu' hAl hAr l2 r2 l3 r3 hsr g1 g2
    simp only [Prog.data, sumAbs_append]
    refine ⟨⟨l1, r1, ?_⟩, c1, c2⟩
    have hA := (budget_facts hu (Prog.merge l r)).2
    simp only [Prog.data, sumAbs_append] at hA
    exact quarter_of_rate c2 (hs.trans (by norm_num)) (add_nonneg hAl hAr) hA

/-- `id` rounds with `u = 0`, where all budgets vanish -/
theorem evalK_exact (p : Prog ℝ) :
    ((p.map inj).evalK : Kahan Rex).sum.val = p.data.sum ∧
    ((p.map inj).evalK : Kahan Rex).comp.val = 0 := by
  obtain ⟨hok, -, hE⟩ := budget_closed (u := 0) le_rfl (by norm_num) p (by norm_num [eps])
  obtain ⟨-, hc, he, -⟩ := prog_inv (fl := id) le_rfl (by norm_num) (fun x => by simp) p hok
  have hc0 : ((p.map inj).evalK : Kahan Rex).comp.val = 0 :=
    abs_nonpos_iff.mp (hc.trans_eq (by ring))
  have he0 := abs_nonpos_iff.mp (he.trans (hE.trans_eq (by simp [eps])))
  rw [hc0, sub_zero, sub_eq_zero] at he0
  exact ⟨he0, hc0⟩

/-- the history of squares at `RR fl` is the history of the rounded squares -/
theorem map_inj_map_sq (p : Prog ℝ) :
    ((p.map inj : Prog (RR fl)).map fun x => NumOps.mul x x)
      = (p.map fun x => fl (x * x)).map inj := by
  rw [map_map, map_map]; rfl

theorem evalA_exact (p : Prog ℝ) :
    ((p.map inj).evalA : Arith Rex).sum.value.val = p.data.sum ∧
    ((p.map inj).evalA : Arith Rex).sumSq.value.val = (p.data.map fun x => x * x).sum ∧
    ((p.map inj).evalA : Arith Rex).count = p.data.length ∧
    ((p.map inj).evalA : Arith Rex).sum.comp.val = 0 ∧
    ((p.map inj).evalA : Arith Rex).sumSq.comp.val = 0 := by
  obtain ⟨h1, h2, h3⟩ := evalA_fields ((p.map inj : Prog Rex))
  obtain ⟨e1, e2⟩ := evalK_exact p
  obtain ⟨f1, f2⟩ := evalK_exact (p.map fun x => id (x * x))
  rw [map_inj_map_sq] at h2
  rw [data_map] at f1
  refine ⟨?_, ?_, ?_, ?_, ?_⟩
  · rw [h1, value_val, e1, e2]; simp
  · rw [h2, value_val, f1, f2]; simp
  · rw [h3, data_map, List.length_map]
  · rw [h1, e2]
  · rw [h2, f2]

/-- `((∅ + from_iter c₁) + from_iter c₂) + …`: the chunks are summed sequentially and merged into
    one accumulator from the left -/
def leftFold (chunks : List (List ℝ)) : Prog ℝ :=
  chunks.foldl (fun acc c => Prog.merge acc (Prog.extend Prog.empty c)) Prog.empty

theorem leftFold_concat (chunks : List (List ℝ)) (c : List ℝ) :
    leftFold (chunks ++ [c]) = .merge (leftFold chunks) (.extend .empty c) := by
  simp [leftFold]

theorem rdepth_leftFold_le (chunks : List (List ℝ)) : (leftFold chunks).rdepth ≤ 1 := by
  induction chunks using List.reverseRecOn with
  | nil => exact Nat.zero_le 1
  | append_singleton cs c ih => rw [leftFold_concat]; simp only [Prog.rdepth]; omega

theorem data_leftFold (chunks : List (List ℝ)) : (leftFold chunks).data = chunks.flatten := by
  induction chunks using List.reverseRecOn with
  | nil => rfl
  | append_singleton cs c ih => simp [leftFold_concat, Prog.data, ih]

end KahanLemmas
end StatsCI
