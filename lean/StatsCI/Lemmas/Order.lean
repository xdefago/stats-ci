/-
  StatsCI.Lemmas.Order — the model's `Cmp` operations interpreted over a linear order, the closed
  set an `Interval` denotes (it has members beyond a missing bound when the order is unbounded there),
  well-formedness, and that the derived `==` of intervals is equality.
-/
import StatsCI.Model.Interval
import Mathlib.Order.Interval.Set.Basic
import Mathlib.Order.Max

namespace StatsCI

/-- the comparison operations of any linear order (what `PartialOrd` is for a totally ordered type) -/
@[reducible] def Cmp.ofLinearOrder (α : Type) [LinearOrder α] : Cmp α where
  le a b := decide (a ≤ b)
  lt a b := decide (a < b)
  eq a b := decide (a = b)

namespace Interval
variable {α : Type}

/-- the closed set an interval denotes -/
def den [Preorder α] : Interval α → Set α
  | .twoSided lo hi => Set.Icc lo hi
  | .upper lo => Set.Ici lo
  | .lower hi => Set.Iic hi

/-- well-formed: `low ≤ high` for a two-sided interval -/
def WF [LE α] : Interval α → Prop
  | .twoSided lo hi => lo ≤ hi
  | _ => True

end Interval

section
variable {α : Type} [LinearOrder α]
attribute [local instance] Cmp.ofLinearOrder

@[simp] theorem cmp_le_iff (a b : α) : (Cmp.le a b = true) ↔ a ≤ b := by simp [Cmp.le]
@[simp] theorem cmp_lt_iff (a b : α) : (Cmp.lt a b = true) ↔ a < b := by simp [Cmp.lt]
@[simp] theorem cmp_eq_iff (a b : α) : (Cmp.eq a b = true) ↔ a = b := by simp [Cmp.eq]
@[simp] theorem ge_iff' (a b : α) : (ge a b = true) ↔ b ≤ a := by simp [ge]
@[simp] theorem gt_iff' (a b : α) : (gt a b = true) ↔ b < a := by simp [gt]
end

namespace Interval
variable {α : Type} [LinearOrder α]

theorem exists_mem_gt_of_right_none [NoMaxOrder α] {A : Interval α} (h : A.right = none) (y : α) :
    ∃ x ∈ A.den, y < x := by
  cases A <;> simp only [right, reduceCtorEq] at h
  rename_i lo
  obtain ⟨w, hw⟩ := exists_gt (max lo y)
  exact ⟨w, ((le_max_left _ _).trans_lt hw).le, (le_max_right _ _).trans_lt hw⟩

theorem exists_mem_lt_of_left_none [NoMinOrder α] {A : Interval α} (h : A.left = none) (y : α) :
    ∃ x ∈ A.den, x < y := by
  cases A <;> simp only [left, reduceCtorEq] at h
  rename_i hi
  obtain ⟨w, hw⟩ := exists_lt (min hi y)
  exact ⟨w, (hw.trans_le (min_le_left _ _)).le, hw.trans_le (min_le_right _ _)⟩

attribute [local instance] Cmp.ofLinearOrder in
theorem beq_iff_eq (a b : Interval α) : a.beq b = true ↔ a = b := by
  cases a <;> cases b <;> simp [beq]

end Interval

end StatsCI
