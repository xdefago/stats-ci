/-
  StatsCI.Lemmas.Total — totality (C11) on the two carriers, on top of the closed forms of
  `Lemmas/EntryPoints`: the instances for `Rex` and `XR` of the law classes under which `ci_mean`
  past its guards never panics (`Arith.ciMean_isPanic`, `Unpaired.ciMean_isPanic` there); on `XR`,
  that non-finite data reach the guards of `ci_mean`,
  that no `Ok` bound is a NaN when the critical values are finite (the bounds are finite, except
  that a harmonic bound may be `+∞` and a quantile bound is whatever datum was selected), and that
  the clamp of `ci_wilson` keeps every `Ok` inside `[0, 1]` whatever the critical value; the test
  vectors behind the examples of the property files (C06, C11).
-/
import StatsCI.Lemmas.XR
import StatsCI.Lemmas.RR
import StatsCI.Lemmas.EntryPoints
import StatsCI.Lemmas.Wilson

namespace StatsCI
open NumOps Scalar

instance : LawfulCmp Rex where
  le_refl x _ := by simp
  le_total x y _ _ := by simp [le_total]
  le_trans x y z _ _ _ := by simp only [RR.le_iff]; exact le_trans
  lt_eq_not_le x y _ _ := by
    show decide (x.val < y.val) = !decide (y.val ≤ x.val)
    rw [← decide_not, decide_eq_decide]; exact not_le.symm

instance : LawfulCount Rex where
  pred_pos n hn := by
    simp
    exact_mod_cast hn

instance : LawfulCmp XR where
  le_refl x hx := by cases x <;> simp_all
  le_total x y hx hy := by cases x <;> cases y <;> simp_all [le_total]
  le_trans x y z hx hy hz := by
    cases x <;> cases y <;> cases z <;> simp_all
    exact le_trans
  lt_eq_not_le x y hx hy := by
    cases x <;> cases y <;> simp_all
    rw [Bool.eq_iff_iff]; simp

instance : LawfulCount XR where
  pred_pos n hn := by
    simp
    exact_mod_cast hn

/-! ## `XR`: non-finite data reach the guard of `ci_mean` -/

namespace XR

theorem kahan_add_sum_nonfinite (k : Kahan XR) (x : XR)
    (h : Scalar.isFinite k.sum = false ∨ Scalar.isFinite x = false) : Scalar.isFinite (k.add x).sum = false := by
  rw [Bool.eq_false_iff]
  intro hf
  obtain ⟨h1, h2⟩ := isFinite_add (show Scalar.isFinite (NumOps.add k.sum (NumOps.sub x k.comp)) = true from hf)
  obtain ⟨h3, _⟩ := isFinite_sub h2
  rcases h with h | h <;> simp_all

theorem arith_extend_nonfinite (a : Arith XR) (xs : List XR)
    (h : Scalar.isFinite a.sum.sum = false ∨ ∃ x ∈ xs, Scalar.isFinite x = false) :
    Scalar.isFinite (a.extend xs).sum.sum = false := by
  induction xs generalizing a with
  | nil =>
    rcases h with h | ⟨_, h, _⟩
    · exact h
    · cases h
  | cons x xs ih =>
    refine ih (a.append x) ?_
    rcases h with h | ⟨y, hy, hyf⟩
    · exact Or.inl (kahan_add_sum_nonfinite a.sum x (Or.inl h))
    · rcases List.mem_cons.mp hy with rfl | hy
      · exact Or.inl (kahan_add_sum_nonfinite a.sum y (Or.inr hyf))
      · exact Or.inr ⟨y, hy, hyf⟩

theorem arith_mean_nonfinite (a : Arith XR) (h : Scalar.isFinite a.sum.sum = false) :
    Scalar.isFinite a.mean = false := by
  rw [Bool.eq_false_iff]
  intro hf
  have h1 := isFinite_div_left (show Scalar.isFinite (NumOps.div a.sum.value (Scalar.ofNat a.count)) = true from hf)
  have h2 := (isFinite_add (show Scalar.isFinite (NumOps.add a.sum.sum a.sum.comp) = true from h1)).1
  simp_all

end XR

/-! ## `XR`: with a finite critical value no `Ok` carries a NaN -/

namespace XR

/-- all bounds finite, and ordered when there are two -/
def FinIv : Interval XR → Prop
  | .twoSided lo hi => ∃ a b : ℝ, lo = fin a ∧ hi = fin b ∧ a ≤ b
  | .upper lo => ∃ a : ℝ, lo = fin a
  | .lower hi => ∃ b : ℝ, hi = fin b

/-- no bound is a NaN -/
def NoNaN : Interval XR → Prop
  | .twoSided lo hi => lo ≠ nan ∧ hi ≠ nan
  | .upper lo => lo ≠ nan
  | .lower hi => hi ≠ nan

theorem FinIv.noNaN {i : Interval XR} (h : FinIv i) : NoNaN i := by
  cases i <;> simp only [FinIv, NoNaN] at *
  · obtain ⟨a, b, rfl, rfl, _⟩ := h; simp
  · obtain ⟨a, rfl⟩ := h; simp
  · obtain ⟨a, rfl⟩ := h; simp

theorem finIv_shapeOf {conf : Confidence XR} {lo hi : ℝ} (h : conf.isTwoSided = true → lo ≤ hi) :
    FinIv (shapeOf conf (fin lo) (fin hi)) := by
  cases conf
  · exact ⟨lo, hi, rfl, rfl, h rfl⟩
  · exact ⟨lo, rfl⟩
  · exact ⟨hi, rfl⟩

theorem finish_ok_fin (crit : Crit XR) (conf : Confidence XR)
    (hc : ∀ r, Scalar.isFinite (crit r) = true) {p : Arith.Prep XR} {m s : ℝ} (hm : p.mean = fin m)
    (hs : p.sem = fin s) {i : Interval XR} (h : MeanLemmas.finish crit conf (.ok p) = .ok i) :
    ∃ lo hi : ℝ, i = shapeOf conf (fin lo) (fin hi) ∧ (conf.isTwoSided = true → lo ≤ hi) := by
  obtain ⟨_, hp, _, _, rfl, hg⟩ := MeanLemmas.finish_eq_ok_iff.mp h
  cases hp
  obtain ⟨c, hc'⟩ := (isFinite_iff _).mp (hc (critReq conf p.dof))
  simp only [MeanLemmas.Prep.lo, MeanLemmas.Prep.hi, hm, hs, hc', down_eq, mul_fin_fin, sub_fin_fin,
    add_fin_fin] at hg ⊢
  exact ⟨_, _, rfl, fun ht => not_gt_fin_iff.mp (hg ht)⟩

theorem arith_ciMean_ok_fin (crit : Crit XR) (a : Arith XR) (conf : Confidence XR)
    (hc : ∀ r, Scalar.isFinite (crit r) = true) {i : Interval XR}
    (h : Arith.ciMean crit a conf = .ok i) :
    ∃ lo hi : ℝ, i = shapeOf conf (fin lo) (fin hi) ∧ (conf.isTwoSided = true → lo ≤ hi) := by
  rw [Arith.ciMean_eq, Outcome.ite_err_eq_ok_iff, Outcome.ite_else_err_eq_ok_iff] at h
  obtain ⟨h2, ⟨hm, hs⟩, h⟩ := h
  obtain ⟨m, hm'⟩ := (isFinite_iff _).mp hm
  obtain ⟨s, hs'⟩ := (isFinite_iff _).mp hs
  have hn : (0 : ℝ) < a.count := Nat.cast_pos.mpr (by omega)
  refine finish_ok_fin crit conf hc (m := m) (s := s / Real.sqrt a.count) hm' ?_ h
  simp only [up_eq] at hs'
  simp only [Arith.prepOf, up_eq, hs', ofNat_eq, sqrt_fin_of_nonneg hn.le,
    div_fin_fin_of_ne _ (Real.sqrt_pos.mpr hn).ne']

theorem unpaired_ciMean_ok_fin (crit : Crit XR) (u : Unpaired XR) (conf : Confidence XR)
    (hc : ∀ r, Scalar.isFinite (crit r) = true) {i : Interval XR}
    (h : Unpaired.ciMean crit u conf = .ok i) :
    ∃ lo hi : ℝ, i = shapeOf conf (fin lo) (fin hi) ∧ (conf.isTwoSided = true → lo ≤ hi) := by
  rw [Unpaired.ciMean_eq, Outcome.ite_err_eq_ok_iff, Outcome.ite_err_eq_ok_iff,
    Outcome.ite_else_err_eq_ok_iff] at h
  obtain ⟨_, _, ⟨hm, hs⟩, h⟩ := h
  obtain ⟨m, hm'⟩ := (isFinite_iff _).mp hm
  obtain ⟨s, hs'⟩ := (isFinite_iff _).mp hs
  exact finish_ok_fin crit conf hc (p := Unpaired.prepOf u) hm' hs' h

theorem arith_ciMean_ok_finIv (crit : Crit XR) (a : Arith XR) (conf : Confidence XR)
    (hc : ∀ r, Scalar.isFinite (crit r) = true) {i : Interval XR}
    (h : Arith.ciMean crit a conf = .ok i) : FinIv i := by
  obtain ⟨lo, hi, rfl, hle⟩ := arith_ciMean_ok_fin crit a conf hc h
  exact finIv_shapeOf hle

theorem arith_ciMean_ok_finite (crit : Crit XR) (a : Arith XR) (conf : Confidence XR)
    (hc : ∀ r, Scalar.isFinite (crit r) = true) (hq : probOk conf.quantile = true) {i : Interval XR}
    (h : Arith.ciMean crit a conf = .ok i) :
    ∃ lo hi : ℝ, (conf.kind = .twoSided → i = .twoSided (fin lo) (fin hi) ∧ lo ≤ hi) ∧
      (conf.kind = .upper → i = .upper (fin lo)) ∧ (conf.kind = .lower → i = .lower (fin hi)) := by
  obtain ⟨lo, hi, rfl, hle⟩ := arith_ciMean_ok_fin crit a conf hc h
  refine ⟨lo, hi, ?_⟩
  cases conf <;> simp [shapeOf, Confidence.kind]
  exact hle rfl

theorem geometric_ciMean_ok_finIv (crit : Crit XR) (g : Geometric XR) (conf : Confidence XR)
    (hc : ∀ r, Scalar.isFinite (crit r) = true) {i : Interval XR}
    (h : Geometric.ciMean crit g conf = .ok i) : FinIv i := by
  obtain ⟨j, hj, h⟩ := Outcome.bind_eq_ok_iff.mp h
  obtain ⟨lo, hi, rfl, hle⟩ := arith_ciMean_ok_fin crit g.logs conf hc hj
  obtain ⟨rfl, _⟩ := intervalOfKind_eq_ok_iff.mp h
  cases conf
  · exact ⟨_, _, exp_fin lo, exp_fin hi, Real.exp_le_exp.mpr (hle rfl)⟩
  · exact ⟨_, exp_fin lo⟩
  · exact ⟨_, exp_fin hi⟩

/-- `+∞` or a strictly positive finite number -/
def PosOrInf (x : XR) : Prop := x = pinf ∨ ∃ r : ℝ, x = fin r ∧ 0 < r

theorem PosOrInf.ne_nan {x : XR} (h : PosOrInf x) : x ≠ nan := by
  rcases h with rfl | ⟨r, rfl, _⟩ <;> simp

/-- every bound is `+∞` or a strictly positive finite number -/
def PosIv : Interval XR → Prop
  | .twoSided lo hi => PosOrInf lo ∧ PosOrInf hi
  | .upper lo => PosOrInf lo
  | .lower hi => PosOrInf hi

theorem PosIv.noNaN {i : Interval XR} (h : PosIv i) : NoNaN i := by
  cases i <;> simp only [PosIv, NoNaN] at *
  · exact ⟨h.1.ne_nan, h.2.ne_nan⟩
  · exact h.ne_nan
  · exact h.ne_nan

theorem recipBound_fin_posOrInf (x : ℝ) : PosOrInf (Harmonic.recipBound (fin x)) := by
  rw [recipBound_fin]
  by_cases hx : 0 < x
  · rw [if_pos hx]; exact Or.inr ⟨1 / x, rfl, one_div_pos.mpr hx⟩
  · rw [if_neg hx]; exact Or.inl rfl

theorem harmonic_ciMean_ok_posIv (crit : Crit XR) (g : Harmonic XR) (conf : Confidence XR)
    (hc : ∀ r, Scalar.isFinite (crit r) = true) {i : Interval XR}
    (h : Harmonic.ciMean crit g conf = .ok i) : PosIv i := by
  obtain ⟨j, hj, h⟩ := Outcome.bind_eq_ok_iff.mp h
  obtain ⟨lo, hi, rfl, _⟩ := arith_ciMean_ok_fin crit g.recip conf.flipped hc hj
  obtain ⟨rfl, _⟩ := intervalOfKind_eq_ok_iff.mp h
  rw [shapeOf_read_flipped (e := ⟨Scalar.negInf, Scalar.posInf⟩) conf Harmonic.recipBound
    Harmonic.recipBound]
  cases conf
  · exact ⟨recipBound_fin_posOrInf hi, recipBound_fin_posOrInf lo⟩
  · exact recipBound_fin_posOrInf hi
  · exact recipBound_fin_posOrInf lo

theorem finish_fin {conf : Confidence XR} {m s : ℝ} {i : Interval XR}
    (h : Proportion.finish conf (fin m) (fin s) = .ok i) : FinIv i := by
  rw [Proportion.finish_eq, liftI_new_eq_ok_iff] at h
  obtain ⟨hg, rfl⟩ := h
  cases conf <;> exact ⟨_, _, rfl, rfl, not_gt_fin_iff.mp hg⟩

theorem ciZNormal_ok_finIv (crit : Crit XR) (conf : Confidence XR) (n k : Nat)
    (hc : ∀ r, Scalar.isFinite (crit r) = true) {i : Interval XR}
    (h : Proportion.ciZNormal crit conf n k = .ok i) : FinIv i := by
  obtain ⟨h1, h2, h3, _, h⟩ := Proportion.ciZNormal_eq_ok_iff.mp h
  obtain ⟨z, hz⟩ := (isFinite_iff _).mp (hc (.z conf.quantile))
  have hn : (0 : ℝ) < n := Nat.cast_pos.mpr (by omega)
  have hn0 : (n : ℝ) ≠ 0 := hn.ne'
  have hp0 : 0 ≤ (k : ℝ) / n := div_nonneg (Nat.cast_nonneg k) hn.le
  have hp1 : (k : ℝ) / n ≤ 1 := (div_le_one hn).mpr (Nat.cast_le.mpr h1)
  have harg : 0 ≤ (k : ℝ) / n * (1 - (k : ℝ) / n) / n :=
    div_nonneg (mul_nonneg hp0 (sub_nonneg.mpr hp1)) hn.le
  have hp : (Proportion.waldP n k : XR) = fin ((k : ℝ) / n) := div_fin_fin_of_ne _ hn0
  have hsd : (Proportion.waldSd n k : XR) = fin (Real.sqrt ((k : ℝ) / n * (1 - (k : ℝ) / n) / n)) := by
    rw [Proportion.waldSd, Proportion.waldQ, hp, one_eq, sub_fin_fin, mul_fin_fin, ofNat_eq,
      div_fin_fin_of_ne _ hn0, sqrt_fin_of_nonneg harg]
  rw [hp, hsd, hz, mul_fin_fin] at h
  exact finish_fin h

theorem selfCmp_iff_noNaN (i : Interval XR) : Quantile.SelfCmp i ↔ NoNaN i := by
  cases i <;> simp only [Quantile.SelfCmp, NoNaN, le_self_iff]

theorem ciSortedUnchecked_ok_noNaN (crit : Crit XR) (conf : Confidence XR) (xs : List XR) (q : XR)
    {i : Interval XR} (h : Quantile.ciSortedUnchecked crit conf xs q = .ok i) : NoNaN i :=
  (selfCmp_iff_noNaN i).mp (Quantile.ciSortedUnchecked_ok_selfCmp h)

/-- `quantile::ci` on `XR` data: whatever the sort did, the bounds passed the self-comparison check
    of `ci_sorted_unchecked` -/
theorem quantile_ci_ok_noNaN (crit : Crit XR) (conf : Confidence XR) (xs : List XR) (q : XR)
    {i : Interval XR} (h : Quantile.ci crit conf xs q = .ok i) : NoNaN i := by
  obtain ⟨sorted, _, h⟩ := Outcome.bind_eq_ok_iff.mp h
  exact ciSortedUnchecked_ok_noNaN crit conf sorted q h

/-! ### the clamp of `ci_wilson` on `XR` -/

theorem wilsonEnds_cases (conf : Confidence XR) (m s : XR) :
    ((Proportion.wilsonEnds conf m s).1 = pinf ∨
      ∃ r : ℝ, (Proportion.wilsonEnds conf m s).1 = fin r ∧ 0 ≤ r) ∧
    ((Proportion.wilsonEnds conf m s).2 = ninf ∨
      ∃ r : ℝ, (Proportion.wilsonEnds conf m s).2 = fin r ∧ r ≤ 1) := by
  cases conf
  · exact ⟨fmax_zero_cases _, fmin_one_cases _⟩
  · obtain ⟨r, hr, hr0, _⟩ := fmin_fmax_unit_cases (NumOps.sub m s)
    exact ⟨Or.inr ⟨r, hr, hr0⟩, Or.inr ⟨1, rfl, le_rfl⟩⟩
  · obtain ⟨r, hr, _, hr1⟩ := fmax_fmin_unit_cases (NumOps.add m s)
    exact ⟨Or.inr ⟨0, rfl, le_rfl⟩, Or.inr ⟨r, hr, hr1⟩⟩

/-- one-sided: the finite end is clamped into `[0, 1]` on both sides and the far end is `1` resp. `0`,
    so the two are finite and ordered -/
theorem wilsonEnds_oneSided (conf : Confidence XR) (m s : XR) (hk : conf.kind ≠ .twoSided) :
    ∃ a b : ℝ, Proportion.wilsonEnds conf m s = (fin a, fin b) ∧ a ≤ b := by
  cases conf
  · exact absurd rfl hk
  · obtain ⟨r, hr, _, hr1⟩ := fmin_fmax_unit_cases (NumOps.sub m s)
    exact ⟨r, 1, Prod.ext hr rfl, hr1⟩
  · obtain ⟨r, hr, hr0, _⟩ := fmax_fmin_unit_cases (NumOps.add m s)
    exact ⟨0, r, Prod.ext rfl hr, hr0⟩

theorem unit_of_not_gt {lo hi : XR} (hlo : lo = pinf ∨ ∃ r : ℝ, lo = fin r ∧ 0 ≤ r)
    (hhi : hi = ninf ∨ ∃ r : ℝ, hi = fin r ∧ r ≤ 1) (hg : gt lo hi = false) :
    ∃ a b : ℝ, lo = fin a ∧ hi = fin b ∧ 0 ≤ a ∧ a ≤ b ∧ b ≤ 1 := by
  rcases hlo with rfl | ⟨a, rfl, ha⟩ <;> rcases hhi with rfl | ⟨b, rfl, hb⟩
  · simp at hg
  · simp at hg
  · simp at hg
  · exact ⟨a, b, rfl, rfl, ha, not_gt_fin_iff.mp hg, hb⟩

theorem finishWilson_ok_unit {conf : Confidence XR} {m s : XR} {i : Interval XR}
    (h : Proportion.finishWilson conf m s = .ok i) :
    ∃ a b : ℝ, i = .twoSided (fin a) (fin b) ∧ 0 ≤ a ∧ a ≤ b ∧ b ≤ 1 := by
  rw [Proportion.finishWilson_eq, liftI_new_eq_ok_iff] at h
  obtain ⟨hg, rfl⟩ := h
  obtain ⟨a, b, ha, hb, h⟩ :=
    unit_of_not_gt (wilsonEnds_cases conf m s).1 (wilsonEnds_cases conf m s).2 hg
  exact ⟨a, b, by rw [ha, hb], h⟩

theorem ciWilson_ok_unit (crit : Crit XR) (conf : Confidence XR) (n k : Nat) {i : Interval XR}
    (h : Proportion.ciWilson crit conf n k = .ok i) :
    ∃ a b : ℝ, i = .twoSided (fin a) (fin b) ∧ 0 ≤ a ∧ a ≤ b ∧ b ≤ 1 :=
  finishWilson_ok_unit (Proportion.ciWilson_eq_ok_iff.mp h).2.2.2.2

theorem ciWilsonRatio_ok_unit (crit : Crit XR) (conf : Confidence XR) (n : Nat) (rate : XR)
    {i : Interval XR} (h : Proportion.ciWilsonRatio crit conf n rate = .ok i) :
    ∃ a b : ℝ, i = .twoSided (fin a) (fin b) ∧ 0 ≤ a ∧ a ≤ b ∧ b ≤ 1 := by
  rw [Proportion.ciWilsonRatio_eq] at h
  split at h
  · cases h
  · exact ciWilson_ok_unit crit conf n _ h

theorem ciWilson_nan_crit (conf : Confidence XR) {n k : Nat} (h1 : k ≤ n) (h2 : 2 ≤ k)
    (h3 : 2 ≤ n - k) (hq : probOk conf.quantile = true) :
    Proportion.ciWilson (fun _ => nan) conf n k = .ok (.twoSided (fin 0) (fin 1)) := by
  have e : ∀ m s t : XR,
      Proportion.wilsonEnds conf (NumOps.div m nan) (NumOps.mul (NumOps.div nan s) t) =
        (fin 0, fin 1) := fun m s t => by
    rw [div_nan_right, div_nan_left, mul_nan_left]
    cases conf
    · rfl
    · exact Prod.ext ((fmin_fin_fin 0 1).trans (by rw [min_eq_left zero_le_one])) rfl
    · exact Prod.ext rfl ((fmax_fin_fin 1 0).trans (by rw [max_eq_left zero_le_one]))
  rw [Proportion.ciWilson_dom _ conf n k h2 (by omega), if_pos hq, Proportion.finishWilson_eq]
  simp only [Proportion.wilsonCentre, Proportion.wilsonSpan, mul_nan_left, add_nan_right, e]
  exact liftI_new_eq_ok_iff.mpr ⟨decide_eq_false (not_lt.mpr zero_le_one), rfl⟩

end XR

/-! ## concrete witnesses (used for the non-vacuity examples of the property files) -/

namespace Examples

/-- the state reached after observing `1, 2`: sum 3, sum of squares 5, count 2 -/
def a12 : Arith Rex := ⟨⟨⟨3⟩, ⟨0⟩⟩, ⟨⟨5⟩, ⟨0⟩⟩, 2⟩

theorem a12_reachable : a12 = Arith.fromList [inj 1, inj 2] := by
  simp only [a12, Arith.fromList, Arith.extend, List.foldl_cons, List.foldl_nil, Arith.append,
    Arith.empty, Kahan.empty, Kahan.new, Kahan.add, Arith.mk.injEq, Kahan.mk.injEq]
  refine ⟨⟨?_, ?_⟩, ⟨?_, ?_⟩, trivial⟩ <;> apply RR.ext' <;> simp <;> norm_num

theorem a12_mean : a12.mean.val = 3 / 2 := by
  simp [a12, Arith.mean, Kahan.value]

theorem a12_variance : a12.variance.val = 1 / 2 := by
  have h : ¬ ((5 : ℝ) - 3 / 2 * 3 < 0) := by norm_num
  simp [a12, Arith.variance, Arith.mean, Kahan.value, h]
  norm_num

theorem a12_stdDev : a12.stdDev.val = Real.sqrt (1 / 2) := by
  simp only [Arith.stdDev, RR.sqrt_val, id, a12_variance]

theorem a12_stdDev_pos : 0 < a12.stdDev.val := by
  rw [a12_stdDev]; exact Real.sqrt_pos.mpr (by norm_num)

theorem a12_stdDev_sq : a12.stdDev.val * a12.stdDev.val = 1 / 2 := by
  rw [a12_stdDev]; exact Real.mul_self_sqrt (by norm_num)

theorem conf95_valid : Confidence.validLevel (Confidence.twoSided (inj 0.95 : Rex)).level = true :=
  RR.validLevel_95

theorem conf95_probOk : probOk (Confidence.twoSided (inj 0.95 : Rex)).quantile = true :=
  Confidence.probOk_of_valid_Rex _ conf95_valid

/-- at exact reals a critical value and a standard error of the same sign give ordered bounds, which
    the two-sided constructor accepts -/
theorem twoSided_ok_Rex (l c : Rex) (p : Arith.Prep Rex) (h : 0 ≤ c.val * p.sem.val) :
    (intervalOfKind (Confidence.twoSided l) (MeanLemmas.Prep.lo c p : Rex) (MeanLemmas.Prep.hi c p) :
      Outcome (Err Rex) (Interval Rex)) =
      .ok (.twoSided (MeanLemmas.Prep.lo c p) (MeanLemmas.Prep.hi c p)) :=
  intervalOfKind_eq_ok_iff.mpr ⟨rfl, fun _ =>
    (gt_sub_add_rex p.mean.val (c.val * p.sem.val)).trans (decide_eq_false (not_lt.mpr h))⟩

theorem arith_ok : ∃ lo hi : Rex,
    Arith.ciMean (constCrit 2 : Crit Rex) a12 (.twoSided (inj 0.95)) = .ok (.twoSided lo hi) ∧
    a12.stdDev.val / Real.sqrt a12.count ≠ 0 := by
  have hsem : 0 < a12.stdDev.val / Real.sqrt a12.count :=
    div_pos a12_stdDev_pos (Real.sqrt_pos.mpr (Nat.cast_pos.mpr (by decide)))
  exact ⟨_, _, Arith.ciMean_eq_ok_iff.mpr ⟨by decide, rfl, rfl,
    fun _ => LawfulCount.pred_pos _ (by decide), conf95_probOk,
    twoSided_ok_Rex _ _ _ (mul_nonneg zero_le_two hsem.le)⟩, hsem.ne'⟩

theorem s2n_a12 : (Unpaired.s2n a12).val = 1 / 4 := by
  simp only [Unpaired.s2n, RR.div_val, RR.mul_val, id, a12_stdDev_sq, RR.ofNat_val]
  norm_num [a12]

theorem unpaired_ok : ∃ lo hi : Rex,
    Unpaired.ciMean (constCrit 2 : Crit Rex) ⟨a12, a12⟩ (.twoSided (inj 0.95)) =
      .ok (.twoSided lo hi) ∧
    (Unpaired.semF (⟨a12, a12⟩ : Unpaired Rex)).val ≠ 0 := by
  have hsem : 0 < (Unpaired.semF (⟨a12, a12⟩ : Unpaired Rex)).val := by
    simp only [Unpaired.semF, RR.sqrt_val, RR.add_val, id, s2n_a12]
    exact Real.sqrt_pos.mpr (by norm_num)
  exact ⟨_, _, Unpaired.ciMean_eq_ok_iff.mpr ⟨by decide, by decide, rfl, rfl,
    fun _ => Unpaired.dofW_gt_zero_RR _ (by norm_num [a12]), conf95_probOk,
    twoSided_ok_Rex _ _ _ (mul_nonneg zero_le_two hsem.le)⟩, hsem.ne'⟩

theorem conf95_valid_XR : Confidence.validLevel (Confidence.twoSided (XR.fin 0.95)).level = true :=
  (XR.validLevel_fin _).mpr ⟨by norm_num, by norm_num⟩

theorem conf95_probOk_XR : probOk (Confidence.twoSided (XR.fin 0.95)).quantile = true :=
  Confidence.probOk_of_valid_XR _ conf95_valid_XR

/-- five successes in ten on `XR` at the critical value `z`: the clamped constructor on the
    real-number Wilson formulas -/
theorem wilson_10_5 (z : ℝ) :
    Proportion.ciWilson (fun _ => XR.fin z) (.twoSided (XR.fin 0.95)) 10 5 =
      Proportion.finishWilson (.twoSided (XR.fin 0.95))
        (XR.fin ((((5 : ℕ) : ℝ) + z * z / (1 + 1)) / (((10 : ℕ) : ℝ) + z * z)))
        (XR.fin (z / (((10 : ℕ) : ℝ) + z * z) *
          Real.sqrt (((5 : ℕ) : ℝ) * (((10 : ℕ) : ℝ) - ((5 : ℕ) : ℝ)) / ((10 : ℕ) : ℝ) +
            z * z / (1 + 1 + (1 + 1))))) := by
  rw [Proportion.ciWilson_dom _ _ 10 5 (by decide) (by decide), if_pos conf95_probOk_XR,
    XR.ofNat_eq, XR.ofNat_eq, (XR.wilson_fin (by decide) (by decide) z).1,
    (XR.wilson_fin (by decide) (by decide) z).2]

/-- a finite critical value on `XR`: five successes in ten, `z = 0` gives `Ok([1/2, 1/2])` -/
theorem wilson_ok_XR :
    Proportion.ciWilson (fun _ => XR.fin 0) (.twoSided (XR.fin 0.95)) 10 5 =
      .ok (.twoSided (XR.fin (1/2)) (XR.fin (1/2))) := by
  rw [wilson_10_5]
  simp only [Proportion.finishWilson, XR.zero_eq, XR.one_eq, XR.sub_fin_fin, XR.add_fin_fin,
    XR.fmax_fin_fin, XR.fmin_fin_fin, Interval.new]
  norm_num [liftI]

theorem index_10_half : Quantile.index 10 (XR.fin (1/2)) = (.ok 5 : Outcome (Err XR) Nat) := by
  have h : (1 / 2 : ℝ) * ((10 : ℕ) : ℝ) = ((5 : ℕ) : ℝ) := by norm_num
  refine Quantile.index_eq_ok_iff.mpr ⟨by decide, ?_, ?_⟩
  · simp only [XR.zero_eq, XR.one_eq, XR.lt_fin_fin, Bool.or_eq_false_iff, decide_eq_false_iff_not]
    norm_num
  · rw [XR.ofNat_eq, XR.mul_fin_fin, XR.floorToNat_fin, h, Nat.floor_natCast]
    rfl

theorem ciIndices_ok :
    Quantile.ciIndices (fun _ => XR.fin 0) (.twoSided (XR.fin 0.95)) 10 (XR.fin 0.5) =
      .ok (.twoSided 5 5) := by
  have hr : roundToNat (mul (XR.fin 0.5) (Scalar.ofNat 10 : XR)) = 5 := by
    have : (0.5 : ℝ) * ((10 : ℕ) : ℝ) = ((5 : ℕ) : ℝ) := by norm_num
    rw [XR.ofNat_eq, XR.mul_fin_fin, XR.roundToNat_fin, this, round_natCast]
    rfl
  refine Quantile.ciIndices_eq_ok_iff.mpr ⟨(XR.validLevel_fin _).mpr ⟨by norm_num, by norm_num⟩,
    by decide, .twoSided (XR.fin (1/2)) (XR.fin (1/2)),
    hr ▸ wilson_ok_XR, ?_, ?_, 5, index_10_half, 5, index_10_half, fun _ => le_rfl, rfl⟩
  · simp only [Interval.toPair, XR.zero_eq, XR.lt_fin_fin, decide_eq_false_iff_not]
    norm_num
  · simp only [Interval.toPair, XR.gt_def, XR.one_eq, XR.lt_fin_fin, decide_eq_false_iff_not]
    norm_num

theorem wilson_nan_crit_ok :
    Proportion.ciWilson (fun _ => XR.nan) (.twoSided (XR.fin 0.95)) 10 5 =
      .ok (.twoSided (XR.fin 0) (XR.fin 1)) :=
  XR.ciWilson_nan_crit _ (by decide) (by decide) (by decide) conf95_probOk_XR

/-- `InvalidBounds` from `ci_wilson` on `XR` in spite of the clamp, by a negative critical value:
    `z = −1`, five successes in ten — the span is negative, so
    `low = centre + |span| > centre − |span| = high` -/
theorem wilson_invalidBounds_XR :
    Proportion.ciWilson (fun _ => XR.fin (-1)) (.twoSided (XR.fin 0.95)) 10 5 =
      .err (.interval .invalidBounds) := by
  rw [wilson_10_5]
  simp only [Proportion.finishWilson, XR.zero_eq, XR.one_eq, XR.sub_fin_fin, XR.add_fin_fin,
    XR.fmax_fin_fin, XR.fmin_fin_fin]
  refine liftI_new_eq_err_iff.mpr ⟨decide_eq_true ?_, rfl⟩
  refine lt_of_le_of_lt (min_le_left _ _) (lt_of_lt_of_le ?_ (le_max_left _ _))
  have key : ∀ c x : ℝ, x < 0 → c + x < c - x := fun c x hx => by linarith
  refine key _ _ ?_
  exact mul_neg_of_neg_of_pos (by norm_num) (Real.sqrt_pos.mpr (by norm_num))

theorem wilson_ok_Rex : ∃ i : Interval Rex,
    Proportion.ciWilson (constCrit 0 : Crit Rex) (.twoSided (inj 0.95)) 10 5 = .ok i := by
  rw [Wilson.ciWilson_rex _ _ 10 5 (by decide) (by decide) conf95_probOk, if_neg]
  · exact ⟨_, rfl⟩
  · exact fun h => lt_irrefl _ h.2

/-- reciprocal-space state after the reciprocals `1, 2` (data `1, 1/2`): sum 3, sum of squares 5 -/
def r12 : Arith XR := ⟨⟨XR.fin 3, XR.fin 0⟩, ⟨XR.fin 5, XR.fin 0⟩, 2⟩

theorem r12_mean : r12.mean = XR.fin (3/2) := by
  simp [r12, Arith.mean, Kahan.value]

theorem r12_variance : r12.variance = XR.fin (1/2) := by
  have e : NumOps.div (XR.fin (5 + 0 - 3 / 2 * (3 + 0))) (XR.fin ((2 - 1 : ℕ) : ℝ)) = XR.fin (1/2) := by
    rw [XR.div_fin_fin_of_ne _ (by norm_num)]
    norm_num
  unfold Arith.variance
  rw [r12_mean]
  simp only [r12, Kahan.value, XR.add_fin_fin, XR.mul_fin_fin, XR.sub_fin_fin, XR.ofNat_eq, e,
    XR.zero_eq, XR.lt_fin_fin]
  norm_num

theorem r12_stdDev : r12.stdDev = XR.fin (Real.sqrt (1/2)) := by
  rw [Arith.stdDev, r12_variance, XR.sqrt_fin_of_nonneg (by norm_num)]

theorem r12_finite : isFinite r12.mean = true ∧ isFinite r12.stdDev = true := by
  rw [r12_mean, r12_stdDev]
  exact ⟨rfl, rfl⟩

theorem r12_sem :
    NumOps.div (Widen.up r12.stdDev : XR) (Scalar.sqrt (Scalar.ofNat r12.count)) = XR.fin (1 / 2) := by
  have hs : Real.sqrt (1 / 2) / Real.sqrt ((2 : ℕ) : ℝ) = 1 / 2 := by
    rw [← Real.sqrt_div (by norm_num), show ((1 : ℝ) / 2 / ((2 : ℕ) : ℝ)) = (1 / 2) ^ 2 by norm_num,
      Real.sqrt_sq (by norm_num)]
  rw [XR.up_eq, r12_stdDev]
  show NumOps.div (XR.fin (Real.sqrt (1 / 2))) (Scalar.sqrt (XR.fin ((2 : ℕ) : ℝ))) = _
  rw [XR.sqrt_fin_of_nonneg (Nat.cast_nonneg 2),
    XR.div_fin_fin_of_ne _ (Real.sqrt_pos.mpr (Nat.cast_pos.mpr two_pos)).ne', hs]

/-- an `Ok` of `Harmonic::ci_mean` on `XR` whose upper bound is `+∞`: the reciprocal-space interval
    `[-97/2, 103/2]` (critical value 100) reaches below zero -/
theorem harmonic_ok_pinf : ∃ r : ℝ, 0 < r ∧
    Harmonic.ciMean (fun _ => XR.fin 100 : Crit XR) ⟨r12⟩ (.twoSided (XR.fin 0.95)) =
      .ok (.twoSided (XR.fin r) XR.pinf) := by
  have hp : (Arith.prepOf r12 : Arith.Prep XR) =
      ⟨XR.fin (3 / 2), XR.fin (1 / 2), (Arith.prepOf r12 : Arith.Prep XR).dof⟩ := by
    rw [Arith.prepOf, r12_sem, XR.up_eq, r12_mean]
  have h : Arith.ciMean (fun _ => XR.fin 100 : Crit XR) r12 (.twoSided (XR.fin 0.95)) =
      .ok (.twoSided (XR.fin (3 / 2 - 100 * (1 / 2))) (XR.fin (3 / 2 + 100 * (1 / 2)))) :=
    Arith.ciMean_eq_ok_iff.mpr ⟨by decide, r12_finite.1, r12_finite.2,
      fun _ => LawfulCount.pred_pos _ (by decide), conf95_probOk_XR,
      by rw [hp]; exact intervalOfKind_eq_ok_iff.mpr ⟨rfl, fun _ => decide_eq_false (by norm_num)⟩⟩
  refine ⟨1 / (3 / 2 + 100 * (1 / 2)), by norm_num, ?_⟩
  unfold Harmonic.ciMean
  rw [show (Confidence.twoSided (XR.fin 0.95)).flipped = .twoSided (XR.fin 0.95) from rfl, h,
    Outcome.bind_ok]
  show intervalOfKind _ (Harmonic.recipBound (XR.fin (3 / 2 + 100 * (1 / 2))))
    (Harmonic.recipBound (XR.fin (3 / 2 - 100 * (1 / 2)))) = _
  rw [XR.recipBound_fin, XR.recipBound_fin, if_pos (by norm_num), if_neg (by norm_num)]
  exact intervalOfKind_eq_ok_iff.mpr ⟨rfl, fun _ => rfl⟩

/-- ten `XR` observations, not sorted, a NaN at rank 0, the number 5 at rank 5 -/
def xsNanOff : List XR :=
  [XR.nan, XR.fin 9, XR.fin 2, XR.fin 3, XR.fin 4, XR.fin 5, XR.fin 6, XR.fin 7, XR.fin 8, XR.fin 1]

/-- ten `XR` observations with a NaN at rank 5 -/
def xsNanAt : List XR :=
  [XR.fin 0, XR.fin 1, XR.fin 2, XR.fin 3, XR.fin 4, XR.nan, XR.fin 6, XR.fin 7, XR.fin 8, XR.fin 9]

/-- an `Ok` of `ci_sorted_unchecked` on an unsorted `XR` slice that holds a NaN away from the
    selected ranks (both ranks are 5) -/
theorem sortedUnchecked_ok_XR :
    Quantile.ciSortedUnchecked (fun _ => XR.fin 0) (.twoSided (XR.fin 0.95)) xsNanOff (XR.fin 0.5) =
      .ok (.twoSided (XR.fin 5) (XR.fin 5)) := by
  have hidx : Quantile.ciIndices (fun _ => XR.fin 0) (.twoSided (XR.fin 0.95)) xsNanOff.length
      (XR.fin 0.5) = .ok (.twoSided 5 5) := ciIndices_ok
  rw [Quantile.ciSortedUnchecked_eq, if_pos (Quantile.ciIndices_eq_ok hidx).1, hidx, Outcome.bind_ok,
    Quantile.pick]
  have h5 : xsNanOff[5]? = some (XR.fin 5) := rfl
  simp only [(Quantile.bound_eq_ok_iff (W := XR)).mpr ⟨h5, by simp⟩, Outcome.bind_ok]
  simp [Interval.new, liftI]

theorem sortedUnchecked_nan_XR :
    Quantile.ciSortedUnchecked (fun _ => XR.fin 0) (.twoSided (XR.fin 0.95)) xsNanAt (XR.fin 0.5) =
      .err .invalidInputData :=
  Quantile.ciSortedUnchecked_of_incomparable (idx := .twoSided 5 5) (r := 5) (x := XR.nan)
    ciIndices_ok (Or.inl rfl) rfl (by simp)

end Examples

end StatsCI
