/-
  StatsCI.Lemmas.SampleStats — the statistics of a list of reals, with nothing of the model in them:
  the sums `Σ|x|`, `Σx²`, the sample mean, variance and standard deviation against which the model
  is measured, and what the error analyses need of them. The variance is a squared distance, so
  Cauchy–Schwarz gives the triangle inequality `|‖c(g)‖ − ‖c(f)‖| ≤ ‖c(g − f)‖` for centred lists;
  from it, a list perturbed entry by entry within relative distance `u` (`RelClose`) has its mean
  within `u·Σ|y|/n` and its standard deviation within `u·√(Σy²/(n−1))` of the original's.
-/
import Mathlib.Analysis.Real.Sqrt
import Mathlib.Algebra.BigOperators.Group.List.Basic
import Mathlib.Algebra.Order.BigOperators.Group.List
import Mathlib.Algebra.Order.Ring.Abs
import Mathlib.Data.List.Forall2
import Mathlib.Tactic.Linarith
import Mathlib.Tactic.LinearCombination
import Mathlib.Tactic.Ring

namespace StatsCI.KahanLemmas

def sumAbs (xs : List ℝ) : ℝ := (xs.map abs).sum

@[simp] theorem sumAbs_nil : sumAbs [] = 0 := by simp [sumAbs]
@[simp] theorem sumAbs_cons (x : ℝ) (xs : List ℝ) : sumAbs (x :: xs) = |x| + sumAbs xs := by
  simp [sumAbs]
@[simp] theorem sumAbs_append (xs ys : List ℝ) : sumAbs (xs ++ ys) = sumAbs xs + sumAbs ys := by
  simp [sumAbs]
theorem sumAbs_singleton (x : ℝ) : sumAbs [x] = |x| := by simp

theorem sumAbs_nonneg : ∀ l : List ℝ, 0 ≤ sumAbs l
  | [] => by simp
  | x :: xs => by
    rw [sumAbs_cons]; exact add_nonneg (abs_nonneg x) (sumAbs_nonneg xs)

theorem abs_sum_le_sumAbs : ∀ l : List ℝ, |l.sum| ≤ sumAbs l
  | [] => by simp
  | x :: xs => by
    rw [List.sum_cons, sumAbs_cons]
    exact (abs_add_le _ _).trans (add_le_add le_rfl (abs_sum_le_sumAbs xs))

theorem sumAbs_perm {xs ys : List ℝ} (h : xs.Perm ys) : sumAbs xs = sumAbs ys :=
  (h.map abs).sum_eq

end StatsCI.KahanLemmas

namespace StatsCI.MeanRound
open KahanLemmas

theorem natCast_pos {n : ℕ} (hn : 2 ≤ n) : (0 : ℝ) < n := Nat.cast_pos.mpr (by omega)

theorem natCast_sub_one_pos {n : ℕ} (hn : 2 ≤ n) : (0 : ℝ) < (n : ℝ) - 1 :=
  sub_pos.mpr (Nat.one_lt_cast.mpr hn)

def sumSq (xs : List ℝ) : ℝ := (xs.map (fun x => x * x)).sum

theorem sumSq_nonneg (xs : List ℝ) : 0 ≤ sumSq xs :=
  List.sum_nonneg (List.forall_mem_map.mpr fun x _ => mul_self_nonneg x)

theorem sumSq_cons (x : ℝ) (xs : List ℝ) : sumSq (x :: xs) = x * x + sumSq xs := by
  simp [sumSq]

theorem sumAbs_map_mul_self (xs : List ℝ) : sumAbs (xs.map fun x => x * x) = sumSq xs := by
  simp [sumAbs, sumSq, List.map_map, Function.comp_def]

theorem sumSq_div_nonneg (xs : List ℝ) (hn : 2 ≤ xs.length) :
    0 ≤ sumSq xs / ((xs.length : ℝ) - 1) :=
  div_nonneg (sumSq_nonneg xs) (natCast_sub_one_pos hn).le

end StatsCI.MeanRound

namespace StatsCI.MeanLemmas
open MeanRound

noncomputable def smean (xs : List ℝ) : ℝ := xs.sum / xs.length

noncomputable def sdev2 (xs : List ℝ) : ℝ := (xs.map (fun x => (x - smean xs) ^ 2)).sum

noncomputable def svar (xs : List ℝ) : ℝ := sdev2 xs / ((xs.length : ℝ) - 1)

noncomputable def ssd (xs : List ℝ) : ℝ := Real.sqrt (svar xs)

theorem sdev2_nonneg (xs : List ℝ) : 0 ≤ sdev2 xs :=
  List.sum_nonneg (List.forall_mem_map.mpr fun _ _ => sq_nonneg _)

theorem svar_nonneg (xs : List ℝ) (hn : 1 ≤ xs.length) : 0 ≤ svar xs :=
  div_nonneg (sdev2_nonneg xs) (sub_nonneg.mpr (Nat.one_le_cast.mpr hn))

theorem ssd_mul_self (xs : List ℝ) (hn : 1 ≤ xs.length) : ssd xs * ssd xs = svar xs :=
  Real.mul_self_sqrt (svar_nonneg xs hn)

theorem sum_sq_dev (xs : List ℝ) (m : ℝ) :
    (xs.map (fun x => (x - m) ^ 2)).sum = sumSq xs - 2 * m * xs.sum + xs.length * m ^ 2 := by
  unfold sumSq
  induction xs with
  | nil => simp
  | cons x xs ih =>
    simp only [List.map_cons, List.sum_cons, List.length_cons, ih]
    push_cast
    ring

theorem sdev2_eq (xs : List ℝ) (hn : 1 ≤ xs.length) :
    sdev2 xs = sumSq xs - smean xs * xs.sum := by
  have hm : smean xs * xs.length = xs.sum :=
    div_mul_cancel₀ _ (Nat.cast_ne_zero.mpr (Nat.one_le_iff_ne_zero.mp hn))
  unfold sdev2
  rw [sum_sq_dev, ← hm]
  ring

theorem smean_mul_sum_nonneg (xs : List ℝ) : 0 ≤ smean xs * xs.sum := by
  unfold smean
  rw [div_mul_eq_mul_div]
  exact div_nonneg (mul_self_nonneg _) (Nat.cast_nonneg _)

end StatsCI.MeanLemmas

namespace StatsCI.MeanRound
open KahanLemmas MeanLemmas

/-- `S·S/n ≤ Σx²`, i.e. `Σ(x − x̄)² ≥ 0` -/
theorem sum_mul_le (xs : List ℝ) (hn : 1 ≤ xs.length) :
    0 ≤ sumSq xs - xs.sum / xs.length * xs.sum :=
  (sdev2_nonneg xs).trans_eq (sdev2_eq xs hn)

/-- Cauchy–Schwarz, as `Σ(|x| − mean|x|)² ≥ 0` -/
theorem sumAbs_mul_le (xs : List ℝ) (hn : 1 ≤ xs.length) :
    sumAbs xs / xs.length * sumAbs xs ≤ sumSq xs := by
  have h := sum_mul_le (xs.map abs) (by rwa [List.length_map])
  have e : sumSq (xs.map abs) = sumSq xs := by
    unfold sumSq
    rw [List.map_map]
    exact congrArg List.sum (List.map_congr_left fun x _ => abs_mul_abs_self x)
  rw [e, List.length_map] at h
  exact sub_nonneg.mp h

theorem abs_smean_le (xs : List ℝ) : |smean xs| ≤ sumAbs xs / xs.length := by
  unfold smean
  rw [abs_div, Nat.abs_cast]
  exact div_le_div_of_nonneg_right (abs_sum_le_sumAbs xs) (Nat.cast_nonneg _)

/-- the one-pass formula: `s² = (Σx² − x̄·Σx)/(n − 1)` -/
theorem svar_eq (xs : List ℝ) (hn : 1 ≤ xs.length) :
    svar xs = (sumSq xs - smean xs * xs.sum) / ((xs.length : ℝ) - 1) := by
  unfold svar
  rw [sdev2_eq xs hn]

theorem sdev2_le_sumSq (xs : List ℝ) (hn : 1 ≤ xs.length) : sdev2 xs ≤ sumSq xs := by
  rw [sdev2_eq xs hn]
  exact sub_le_self _ (smean_mul_sum_nonneg xs)

theorem svar_le (xs : List ℝ) (hn : 2 ≤ xs.length) :
    svar xs ≤ sumSq xs / ((xs.length : ℝ) - 1) := by
  unfold svar
  exact div_le_div_of_nonneg_right (sdev2_le_sumSq xs (by omega)) (natCast_sub_one_pos hn).le

/-! the samples of the non-vacuity examples -/

theorem svar_one_two_four : svar [1, 2, 4] = 7 / 3 := by
  simp [svar, sdev2, smean]; norm_num

theorem svar_one_three : svar [1, 3] = 2 := by
  simp [svar, sdev2, smean]; norm_num

theorem svar_pair_self (x : ℝ) : svar [x, x] = 0 := by
  simp [svar, sdev2, smean]

end StatsCI.MeanRound

namespace StatsCI.UnpairedRound
open KahanLemmas MeanLemmas MeanRound

noncomputable def meanAbs (xs : List ℝ) : ℝ := sumAbs xs / xs.length

/-- `Σx²/((n − 1)·n)`: the magnitude against which the error of `s²/n` is measured -/
noncomputable def sqTerm (xs : List ℝ) : ℝ := sumSq xs / ((xs.length : ℝ) - 1) / xs.length

theorem meanAbs_nonneg (xs : List ℝ) : 0 ≤ meanAbs xs :=
  div_nonneg (sumAbs_nonneg xs) (Nat.cast_nonneg _)

theorem sqTerm_nonneg (xs : List ℝ) (hn : 1 ≤ xs.length) : 0 ≤ sqTerm xs := by
  have h1 : (1 : ℝ) ≤ xs.length := by exact_mod_cast hn
  exact div_nonneg (div_nonneg (sumSq_nonneg xs) (sub_nonneg.mpr h1)) (zero_le_one.trans h1)

theorem abs_smean_sub_le (as bs : List ℝ) : |smean as - smean bs| ≤ meanAbs as + meanAbs bs :=
  le_trans (abs_sub _ _) (add_le_add (MeanRound.abs_smean_le as) (MeanRound.abs_smean_le bs))

end StatsCI.UnpairedRound

namespace StatsCI.MeanLogRound

section cs
variable {α : Type}

theorem sum_map_sq_nonneg (l : List α) (a : α → ℝ) : 0 ≤ (l.map (fun i => a i ^ 2)).sum :=
  List.sum_nonneg (List.forall_mem_map.mpr fun i _ => sq_nonneg (a i))

/-- arithmetic and geometric mean: `(2w)² ≤ 4uv ≤ (u + v)²` -/
theorem two_mul_le_add_of_sq_le_mul {w u v : ℝ} (hu : 0 ≤ u) (hv : 0 ≤ v) (h : w ^ 2 ≤ u * v) :
    2 * w ≤ u + v := by
  have h1 : (2 * w) ^ 2 ≤ (u + v) ^ 2 := by linear_combination 4 * h + sq_nonneg (u - v)
  exact (abs_le_of_sq_le_sq' h1 (add_nonneg hu hv)).2

/-- one more term in Cauchy–Schwarz: the cross term `2·xyP` is at most `x²B + y²A` -/
theorem cs_step {P A B x y : ℝ} (hA : 0 ≤ A) (hB : 0 ≤ B) (ih : P ^ 2 ≤ A * B) :
    (x * y + P) ^ 2 ≤ (x ^ 2 + A) * (y ^ 2 + B) := by
  have hw : (x * y * P) ^ 2 ≤ x ^ 2 * B * (y ^ 2 * A) :=
    calc (x * y * P) ^ 2 = (x * y) ^ 2 * P ^ 2 := mul_pow _ _ _
      _ ≤ (x * y) ^ 2 * (A * B) := mul_le_mul_of_nonneg_left ih (sq_nonneg _)
      _ = x ^ 2 * B * (y ^ 2 * A) := by ring
  linear_combination ih + two_mul_le_add_of_sq_le_mul (mul_nonneg (sq_nonneg x) hB)
    (mul_nonneg (sq_nonneg y) hA) hw

theorem cs_list (l : List α) (a b : α → ℝ) :
    ((l.map (fun i => a i * b i)).sum) ^ 2 ≤
      (l.map (fun i => a i ^ 2)).sum * (l.map (fun i => b i ^ 2)).sum := by
  induction l with
  | nil => simp
  | cons i l ih =>
    simp only [List.map_cons, List.sum_cons]
    exact cs_step (sum_map_sq_nonneg l a) (sum_map_sq_nonneg l b) ih

theorem sum_map_sq_sub (l : List α) (a b : α → ℝ) :
    (l.map (fun i => (a i - b i) ^ 2)).sum =
      (l.map (fun i => a i ^ 2)).sum - 2 * (l.map (fun i => a i * b i)).sum
        + (l.map (fun i => b i ^ 2)).sum := by
  induction l with
  | nil => simp
  | cons i l ih =>
    simp only [List.map_cons, List.sum_cons, ih]
    ring

/-- squared, this is Cauchy–Schwarz `Σa'a ≤ √Σa'²·√Σa²` -/
theorem sqrt_sumsq_sub_le (l : List α) (a a' : α → ℝ) :
    |Real.sqrt ((l.map (fun i => a' i ^ 2)).sum) - Real.sqrt ((l.map (fun i => a i ^ 2)).sum)| ≤
      Real.sqrt ((l.map (fun i => (a' i - a i) ^ 2)).sum) := by
  have hA := sum_map_sq_nonneg l a
  have hA' := sum_map_sq_nonneg l a'
  have hcs := Real.abs_le_sqrt (cs_list l a' a)
  rw [Real.sqrt_mul hA'] at hcs
  apply Real.abs_le_sqrt
  rw [sum_map_sq_sub, sub_sq, Real.sq_sqrt hA, Real.sq_sqrt hA']
  linarith only [le_abs_self ((l.map (fun i => a' i * a i)).sum), hcs]

end cs

end StatsCI.MeanLogRound

namespace StatsCI.MeanLemmas

theorem sum_map_div_const (xs : List ℝ) (c : ℝ) : (xs.map (fun x => x / c)).sum = xs.sum / c := by
  simp only [div_eq_mul_inv, List.sum_map_mul_right, List.map_id']

theorem smean_map_neg (xs : List ℝ) (f : ℝ → ℝ) :
    smean (xs.map (fun x => -f x)) = -smean (xs.map f) := by
  unfold smean
  rw [← neg_div, List.sum_neg, List.map_map, List.length_map, List.length_map]
  rfl

theorem sum_map_add_const (xs : List ℝ) (k : ℝ) :
    (xs.map (fun x => x + k)).sum = xs.sum + xs.length * k := by
  rw [List.sum_map_add, List.map_id', List.map_const', List.sum_replicate, nsmul_eq_mul]

theorem smean_shift (xs : List ℝ) (k : ℝ) (hn : 1 ≤ xs.length) :
    smean (xs.map (fun x => x + k)) = smean xs + k := by
  unfold smean
  rw [sum_map_add_const, List.length_map, add_div,
    mul_div_cancel_left₀ k (Nat.cast_ne_zero.mpr (Nat.one_le_iff_ne_zero.mp hn))]

theorem sdev2_shift (xs : List ℝ) (k : ℝ) (hn : 1 ≤ xs.length) :
    sdev2 (xs.map (fun x => x + k)) = sdev2 xs := by
  unfold sdev2
  rw [smean_shift xs k hn, List.map_map]
  congr 1
  apply List.map_congr_left
  intro x _
  simp only [Function.comp]
  ring

theorem svar_shift (xs : List ℝ) (k : ℝ) (hn : 1 ≤ xs.length) :
    svar (xs.map (fun x => x + k)) = svar xs := by
  unfold svar
  rw [sdev2_shift xs k hn, List.length_map]

theorem ssd_shift (xs : List ℝ) (k : ℝ) (hn : 1 ≤ xs.length) :
    ssd (xs.map (fun x => x + k)) = ssd xs :=
  congrArg Real.sqrt (svar_shift xs k hn)

end StatsCI.MeanLemmas

namespace StatsCI.MeanLogRound
open KahanLemmas MeanLemmas MeanRound

variable {fl : ℝ → ℝ} {u : ℝ}

/-- entries scaled by at most `k` in absolute value, over an index list (a pair of lists enters as
    the two projections of a list of pairs, `RelClose.exists_zip`) -/
theorem sumSq_map_le {α : Type} {k : ℝ} (hk : 0 ≤ k) (l : List α) (f g : α → ℝ)
    (h : ∀ i ∈ l, |g i| ≤ k * |f i|) : sumSq (l.map g) ≤ k * k * sumSq (l.map f) := by
  induction l with
  | nil => simp [sumSq]
  | cons i l ih =>
    have h1 := h i (by simp)
    have h2 := mul_le_mul h1 h1 (abs_nonneg _) (mul_nonneg hk (abs_nonneg _))
    rw [abs_mul_abs_self, mul_mul_mul_comm, abs_mul_abs_self] at h2
    rw [List.map_cons, List.map_cons, sumSq_cons, sumSq_cons, mul_add]
    exact add_le_add h2 (ih fun j hj => h j (by simp [hj]))

section pert
variable {α : Type}

theorem sum_map_sub (l : List α) (f g : α → ℝ) :
    (l.map (fun i => g i - f i)).sum = (l.map g).sum - (l.map f).sum := by
  induction l with
  | nil => simp
  | cons i l ih => simp only [List.map_cons, List.sum_cons, ih]; ring

theorem smean_map_sub (l : List α) (f g : α → ℝ) :
    smean (l.map (fun i => g i - f i)) = smean (l.map g) - smean (l.map f) := by
  unfold smean
  rw [sum_map_sub, List.length_map, List.length_map, List.length_map, sub_div]

theorem sdev2_map (l : List α) (h : α → ℝ) :
    sdev2 (l.map h) = (l.map (fun i => (h i - smean (l.map h)) ^ 2)).sum := by
  unfold sdev2
  rw [List.map_map]
  rfl

/-- the centred vectors differ by the centred difference: `|‖c(g)‖ − ‖c(f)‖| ≤ ‖c(g − f)‖` -/
theorem sqrt_sdev2_sub_le (l : List α) (f g : α → ℝ) :
    |Real.sqrt (sdev2 (l.map g)) - Real.sqrt (sdev2 (l.map f))| ≤
      Real.sqrt (sdev2 (l.map (fun i => g i - f i))) := by
  rw [sdev2_map l g, sdev2_map l f, sdev2_map l (fun i => g i - f i), smean_map_sub]
  have := sqrt_sumsq_sub_le l (fun i => f i - smean (l.map f)) (fun i => g i - smean (l.map g))
  have e : (fun i => (g i - smean (l.map g) - (f i - smean (l.map f))) ^ 2) =
      fun i => (g i - f i - (smean (l.map g) - smean (l.map f))) ^ 2 := by
    funext i; ring
  rw [e] at this
  exact this

theorem ssd_eq_div (xs : List ℝ) :
    ssd xs = Real.sqrt (sdev2 xs) / Real.sqrt ((xs.length : ℝ) - 1) := by
  unfold ssd svar
  rw [Real.sqrt_div (sdev2_nonneg xs)]

theorem ssd_map_sub_le (hu : 0 ≤ u) (l : List α) (f g : α → ℝ) (hn : 2 ≤ l.length)
    (h : ∀ i ∈ l, |g i - f i| ≤ u * |f i|) :
    |ssd (l.map g) - ssd (l.map f)| ≤
      u * Real.sqrt (sumSq (l.map f) / ((l.length : ℝ) - 1)) := by
  have hR : 0 < Real.sqrt ((l.length : ℝ) - 1) := Real.sqrt_pos.mpr (natCast_sub_one_pos hn)
  rw [ssd_eq_div, ssd_eq_div, List.length_map, List.length_map, ← sub_div, abs_div,
    abs_of_pos hR, Real.sqrt_div (sumSq_nonneg _), ← mul_div_assoc]
  apply div_le_div_of_nonneg_right _ hR.le
  refine le_trans (sqrt_sdev2_sub_le l f g) ?_
  have h1 : sdev2 (l.map (fun i => g i - f i)) ≤ u * u * sumSq (l.map f) :=
    le_trans (sdev2_le_sumSq _ (by rw [List.length_map]; omega)) (sumSq_map_le hu l f _ h)
  have h2 := Real.sqrt_le_sqrt h1
  rw [Real.sqrt_mul (mul_self_nonneg u), Real.sqrt_mul_self hu] at h2
  exact h2

end pert

/-- `ỹᵢ` is within relative distance `u` of `yᵢ`, entry by entry (so the lengths agree) -/
def RelClose (u : ℝ) (ys yt : List ℝ) : Prop :=
  List.Forall₂ (fun y y' => |y' - y| ≤ u * |y|) ys yt

theorem RelClose.length_eq {ys yt : List ℝ} (h : RelClose u ys yt) : ys.length = yt.length :=
  List.Forall₂.length_eq h

theorem relClose_map_fl (hfl : ∀ x, |fl x - x| ≤ u * |x|) (ys : List ℝ) :
    RelClose u ys (ys.map fl) := by
  induction ys with
  | nil => exact List.Forall₂.nil
  | cons y ys ih => exact List.Forall₂.cons (hfl y) ih

theorem RelClose.exists_zip {ys yt : List ℝ} (h : RelClose u ys yt) :
    ∃ l : List (ℝ × ℝ), ys = l.map Prod.fst ∧ yt = l.map Prod.snd ∧
      ∀ p ∈ l, |p.2 - p.1| ≤ u * |p.1| := by
  induction h with
  | nil => exact ⟨[], rfl, rfl, by simp⟩
  | @cons a b as bs hab _ ih =>
    obtain ⟨l, h1, h2, h3⟩ := ih
    refine ⟨(a, b) :: l, by simp [h1], by simp [h2], ?_⟩
    intro p hp
    simp only [List.mem_cons] at hp
    rcases hp with rfl | hp
    · exact hab
    · exact h3 p hp

theorem RelClose.sum {ys yt : List ℝ} (h : RelClose u ys yt) :
    |yt.sum - ys.sum| ≤ u * sumAbs ys := by
  induction h with
  | nil => simp
  | @cons a b as bs hab _ ih =>
    rw [List.sum_cons, List.sum_cons, sumAbs_cons, mul_add, add_sub_add_comm]
    exact (abs_add_le _ _).trans (add_le_add hab ih)

theorem RelClose.sumAbs_le {ys yt : List ℝ} (h : RelClose u ys yt) :
    sumAbs yt ≤ (1 + u) * sumAbs ys := by
  induction h with
  | nil => simp
  | @cons a b as bs hab _ ih =>
    rw [sumAbs_cons, sumAbs_cons, mul_add, one_add_mul u |a|]
    exact add_le_add (sub_le_iff_le_add'.mp ((abs_sub_abs_le_abs_sub b a).trans hab)) ih

theorem RelClose.sumSq_le (hu : 0 ≤ u) {ys yt : List ℝ} (h : RelClose u ys yt) :
    sumSq yt ≤ (1 + u) * (1 + u) * sumSq ys := by
  obtain ⟨l, rfl, rfl, h3⟩ := h.exists_zip
  exact sumSq_map_le (add_nonneg zero_le_one hu) l Prod.fst Prod.snd fun p hp =>
    (sub_le_iff_le_add'.mp ((abs_sub_abs_le_abs_sub p.2 p.1).trans (h3 p hp))).trans_eq
      (one_add_mul u |p.1|).symm

theorem RelClose.smean_close {ys yt : List ℝ} (h : RelClose u ys yt) (hn : 1 ≤ ys.length) :
    |smean yt - smean ys| ≤ u * (sumAbs ys / ys.length) := by
  have hN0 : (0 : ℝ) < ys.length := by exact_mod_cast hn
  unfold smean
  rw [← h.length_eq, ← sub_div, abs_div, abs_of_pos hN0, ← mul_div_assoc]
  exact div_le_div_of_nonneg_right h.sum hN0.le

theorem RelClose.ssd_close (hu : 0 ≤ u) {ys yt : List ℝ} (h : RelClose u ys yt) (hn : 2 ≤ ys.length) :
    |ssd yt - ssd ys| ≤ u * Real.sqrt (sumSq ys / ((ys.length : ℝ) - 1)) := by
  obtain ⟨l, rfl, rfl, h3⟩ := h.exists_zip
  rw [List.length_map] at hn ⊢
  exact ssd_map_sub_le hu l Prod.fst Prod.snd hn h3

end StatsCI.MeanLogRound
