/-
  StatsCI.Lemmas.Sorted — order statistics of a sorted list, and the quantile entry points that take
  the data, over a linear order.

  `Quantile.sorted` is the sort the model applies: `List.mergeSort` on the `≤` test. An order
  statistic `(sorted xs)[i]` is compared with a value by counting the data on one side of it
  (`sorted_le_iff`, `le_sorted_iff`). Then the model: over a linear order neither `sortData` nor
  `bound` meets an incomparable element, so on any carrier `ci` is `ci_indices` at the length of the
  data followed by element access in `sorted xs`, and that access cannot fail (`ci_of_indices_ok`).
-/
import StatsCI.Lemmas.Order
import StatsCI.Lemmas.EntryPoints
import Mathlib.Data.List.Sort

namespace StatsCI

namespace Quantile
section sort
variable {T : Type} [LinearOrder T]
attribute [local instance] Cmp.ofLinearOrder

/-- the (stable merge) sort the model applies to the data. `List.mergeSort` does not reduce under
    `decide`; on a literal, `sorted_eq_of_sorted_perm (by decide) (by decide)` evaluates it. -/
def sorted (xs : List T) : List T := xs.mergeSort (fun a b => decide (a ≤ b))

theorem sorted_perm (xs : List T) : (sorted xs).Perm xs := List.mergeSort_perm _ _

theorem sorted_length (xs : List T) : (sorted xs).length = xs.length := (sorted_perm xs).length_eq

theorem sorted_pairwise (xs : List T) : (sorted xs).Pairwise (· ≤ ·) := by
  have := List.pairwise_mergeSort (le := fun a b : T => decide (a ≤ b))
    (fun a b c hab hbc => by simpa using le_trans (by simpa using hab) (by simpa using hbc))
    (fun a b => by simpa using le_total a b) xs
  simpa [sorted] using this

theorem mem_sorted (xs : List T) (a : T) : a ∈ sorted xs ↔ a ∈ xs := (sorted_perm xs).mem_iff

theorem sorted_eq_of_sorted_perm {xs ys : List T} (hp : ys.Perm xs) (hs : ys.Pairwise (· ≤ ·)) :
    sorted xs = ys :=
  List.Perm.eq_of_pairwise' (r := (· ≤ ·)) (sorted_pairwise xs) hs ((sorted_perm xs).trans hp.symm)

theorem sorted_eq_of_perm {xs ys : List T} (h : xs.Perm ys) : sorted xs = sorted ys :=
  sorted_eq_of_sorted_perm ((sorted_perm ys).trans h.symm) (sorted_pairwise ys)

theorem sorted_getElem_le (xs : List T) {i j : ℕ} (hij : i ≤ j) (hj : j < (sorted xs).length) :
    (sorted xs)[i]'(lt_of_le_of_lt hij hj) ≤ (sorted xs)[j] := by
  rcases Nat.eq_or_lt_of_le hij with rfl | hlt
  · exact le_rfl
  · exact List.pairwise_iff_getElem.mp (sorted_pairwise xs) i j _ hj hlt

/-- in a sorted list the elements satisfying a downward-closed predicate form a prefix -/
theorem getElem_iff_lt_countP (P : T → Bool) (hP : ∀ a b, a ≤ b → P b = true → P a = true) :
    ∀ (s : List T), s.Pairwise (· ≤ ·) → ∀ (i : ℕ) (hi : i < s.length),
      (P s[i] = true ↔ i < s.countP P)
  | [], _, i, hi => absurd hi (by simp)
  | a :: t, hs, i, hi => by
    obtain ⟨ha, ht⟩ := List.pairwise_cons.mp hs
    -- `P` at the head follows from `P` anywhere in the tail
    have hall {b : T} (hb : b ∈ t) (hPb : P b = true) : P a = true := hP a b (ha b hb) hPb
    cases i with
    | zero =>
      rw [List.getElem_cons_zero, List.countP_pos_iff]
      exact ⟨fun h => ⟨a, List.mem_cons_self, h⟩,
        fun ⟨b, hb, hPb⟩ => (List.mem_cons.mp hb).elim (· ▸ hPb) (hall · hPb)⟩
    | succ j =>
      rw [List.getElem_cons_succ, getElem_iff_lt_countP P hP t ht j (Nat.lt_of_succ_lt_succ hi),
        List.countP_cons]
      by_cases hPa : P a = true
      · rw [if_pos hPa, Nat.add_lt_add_iff_right]
      · rw [if_neg hPa, List.countP_eq_zero.mpr fun b hb hPb => hPa (hall hb hPb)]
        exact iff_of_false (Nat.not_lt_zero _) (Nat.not_lt_zero _)

theorem sorted_le_iff (xs : List T) (ξ : T) (i : ℕ) (hi : i < (sorted xs).length) :
    (sorted xs)[i] ≤ ξ ↔ i + 1 ≤ xs.countP (fun x => decide (x ≤ ξ)) := by
  have h := getElem_iff_lt_countP (fun x => decide (x ≤ ξ))
    (by intro a b hab; simp only [decide_eq_true_eq]; exact fun hb => le_trans hab hb)
    (sorted xs) (sorted_pairwise xs) i hi
  rw [(sorted_perm xs).countP_eq] at h
  simpa [Nat.succ_le_iff] using h

theorem le_sorted_iff (xs : List T) (ξ : T) (i : ℕ) (hi : i < (sorted xs).length) :
    ξ ≤ (sorted xs)[i] ↔ xs.countP (fun x => decide (x < ξ)) ≤ i := by
  have h := getElem_iff_lt_countP (fun x => decide (x < ξ))
    (by intro a b hab; simp only [decide_eq_true_eq]; exact fun hb => lt_of_le_of_lt hab hb)
    (sorted xs) (sorted_pairwise xs) i hi
  rw [(sorted_perm xs).countP_eq] at h
  simp only [decide_eq_true_eq] at h
  rw [← not_lt, h, not_lt]

variable {W : Type}

/-- over a linear order every element is comparable with itself: the sort never panics -/
theorem sortData_eq (xs : List T) :
    (Quantile.sortData xs : Outcome (Err W) (List T)) = .ok (sorted xs) := by
  simp [Quantile.sortData, sorted, Cmp.le]

/-- … and the self-comparison check of `bound` never fires: `bound` is plain element access -/
@[simp] theorem bound_eq_nth (xs : List T) (i : ℕ) :
    (Quantile.bound xs i : Outcome (Err W) T) = Quantile.nth xs i := by
  unfold Quantile.bound
  cases Quantile.nth (W := W) xs i <;> simp [Cmp.le]

variable [Scalar W]

theorem ci_eq_sorted (crit : Crit W) (conf : Confidence W) (xs : List T) (q : W) :
    Quantile.ci crit conf xs q = Quantile.ciSortedUnchecked crit conf (sorted xs) q := by
  simp [Quantile.ci, sortData_eq]

/-- `ci` in terms of the index-only entry point (which re-checks the quantile itself) -/
theorem ci_eq_bind (crit : Crit W) (conf : Confidence W) (xs : List T) (q : W) :
    Quantile.ci crit conf xs q =
      (Quantile.ciIndices crit conf xs.length q).bind (pick (sorted xs)) := by
  rw [ci_eq_sorted, ciSortedUnchecked_eq, sorted_length]
  split
  · rfl
  · rename_i hq
    rw [ciIndices_eq_bind, if_neg hq]
    rfl

/-- the ranks of a successful `ci_indices` are in range because `Stats::index` clamps at `n − 1`, and
    ordered when both are kept because `Interval::new` accepted them; so the look-ups of `ci`
    succeed, and `Interval::new` accepts the elements because the sample is sorted -/
theorem ci_of_indices_ok (crit : Crit W) (conf : Confidence W) (xs : List T) (q : W)
    {idx : Interval ℕ} (h : Quantile.ciIndices crit conf xs.length q = .ok idx) :
    ∃ lo hi, ∃ (h1 : lo < (sorted xs).length) (h2 : hi < (sorted xs).length),
      shapeOf conf lo hi = idx ∧ (conf.isTwoSided = true → lo ≤ hi) ∧
      Quantile.ci crit conf xs q = .ok (shapeOf conf (sorted xs)[lo] (sorted xs)[hi]) := by
  obtain ⟨-, -, _, -, -, -, lo, hlo, hi, hhi, hle, rfl⟩ := ciIndices_eq_ok_iff.mp h
  have h1 : lo < (sorted xs).length := (sorted_length xs).symm ▸ index_lt_of_ok hlo
  have h2 : hi < (sorted xs).length := (sorted_length xs).symm ▸ index_lt_of_ok hhi
  refine ⟨lo, hi, h1, h2, rfl, hle, ?_⟩
  rw [ci_eq_bind, h, Outcome.bind_ok]
  cases conf with
  | twoSided l =>
    rw [shapeOf, pick, bound_eq_nth, bound_eq_nth, nth_of_lt _ h1, nth_of_lt _ h2, Outcome.bind_ok,
      Outcome.bind_ok, liftI_new,
      if_neg (by rw [gt_iff']; exact not_lt.mpr (sorted_getElem_le xs (hle rfl) h2))]
    rfl
  | upper l => rw [shapeOf, pick, bound_eq_nth, nth_of_lt _ h1]; rfl
  | lower l => rw [shapeOf, pick, bound_eq_nth, nth_of_lt _ h2]; rfl

/-- in one equation: the outcome of `ci`, its bounds wrapped in `some`, is the outcome of `ci_indices`
    on the sample size with every rank looked up in the sorted sample -/
theorem ci_eq_indices_lookup (crit : Crit W) (conf : Confidence W) (xs : List T) (q : W) :
    (Quantile.ci crit conf xs q).map (Interval.map some) =
      (Quantile.ciIndices crit conf xs.length q).map (Interval.map fun i => (sorted xs)[i]?) := by
  cases hr : Quantile.ciIndices crit conf xs.length q with
  | ok idx =>
    obtain ⟨lo, hi, h1, h2, rfl, -, hci⟩ := ci_of_indices_ok crit conf xs q hr
    rw [hci, MeanLemmas.Outcome.map_ok, MeanLemmas.Outcome.map_ok, shapeOf_map, shapeOf_map,
      List.getElem?_eq_getElem h1, List.getElem?_eq_getElem h2]
  | err e => rw [ci_eq_bind, hr]; rfl
  | panic t => rw [ci_eq_bind, hr]; rfl

theorem ci_ok_mem {crit : Crit W} {conf : Confidence W} {xs : List T} {q : W} {iv : Interval T}
    (h : Quantile.ci crit conf xs q = .ok iv) :
    match iv with
    | .twoSided a b => a ∈ xs ∧ b ∈ xs ∧ a ≤ b
    | .upper a => a ∈ xs
    | .lower b => b ∈ xs := by
  obtain ⟨idx, hr, -⟩ := Outcome.bind_eq_ok_iff.mp ((ci_eq_bind crit conf xs q).symm.trans h)
  obtain ⟨lo, hi, h1, h2, -, hle, hci⟩ := ci_of_indices_ok crit conf xs q hr
  cases hci.symm.trans h
  have m1 := (mem_sorted xs _).mp (List.getElem_mem h1)
  have m2 := (mem_sorted xs _).mp (List.getElem_mem h2)
  cases conf with
  | twoSided l => exact ⟨m1, m2, sorted_getElem_le xs (hle rfl) h2⟩
  | upper l => exact m1
  | lower l => exact m2

end sort
end Quantile

namespace WilsonMono
variable {α : Type} [LinearOrder α]

/-- the model's sort (`List.mergeSort` with the `≤` test) -/
def sortL (xs : List α) : List α := xs.mergeSort (fun a b => decide (a ≤ b))

theorem sortL_length (xs : List α) : (sortL xs).length = xs.length := Quantile.sorted_length xs

end WilsonMono

end StatsCI
