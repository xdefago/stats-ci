/-
  StatsCI.Lemmas.IntervalAlg — the model's `NumOps` operations interpreted over an ordered ring /
  ordered field, and what C13 / C14 / C15 share about `Interval`: the denoted set read through the
  bounds `left` / `right`, the kind-preserving and the mirroring map of the bounds
  (`appliedBoth` / `appliedFlipped`), the relation `Below` behind `partial_cmp`, and the bound-by-bound
  form of `A + B`, `A - B` and `relative_to`.
-/
import StatsCI.Lemmas.Order
import Mathlib.Algebra.Order.Field.Basic
import Mathlib.Algebra.Order.Ring.Defs
import Mathlib.Algebra.Order.Ring.Int
import Mathlib.Algebra.Order.Ring.Rat
import Mathlib.Data.Set.Image
import Mathlib.Data.Set.NAry
import Mathlib.Tactic.Linarith
import Mathlib.Tactic.Ring

namespace StatsCI

/-- the arithmetic of an ordered commutative ring (machine-independent integers, rationals, reals),
    over the comparison operations `Cmp.ofLinearOrder`. `div` is not a ring operation: it is a
    dummy here and no theorem stated over `ofRing` mentions a function that uses it. -/
@[reducible] def NumOps.ofRing (α : Type) [CommRing α] [LinearOrder α] [IsStrictOrderedRing α] :
    NumOps α where
  toCmp := Cmp.ofLinearOrder α
  add := (· + ·)
  sub := (· - ·)
  mul := (· * ·)
  div := fun a _ => a
  neg := fun a => -a
  zero := 0
  one := 1

/-- the arithmetic of an ordered field, over the comparison operations `Cmp.ofLinearOrder` -/
@[reducible] def NumOps.ofField (α : Type) [Field α] [LinearOrder α] [IsStrictOrderedRing α] :
    NumOps α where
  toCmp := Cmp.ofLinearOrder α
  add := (· + ·)
  sub := (· - ·)
  mul := (· * ·)
  div := (· / ·)
  neg := fun a => -a
  zero := 0
  one := 1

section ring
variable {α : Type} [CommRing α] [LinearOrder α] [IsStrictOrderedRing α]
attribute [local instance] NumOps.ofRing

@[simp] theorem ofRing_le_iff (a b : α) : (Cmp.le a b = true) ↔ a ≤ b := cmp_le_iff a b
@[simp] theorem ofRing_lt_iff (a b : α) : (Cmp.lt a b = true) ↔ a < b := cmp_lt_iff a b
@[simp] theorem ofRing_add (a b : α) : NumOps.add a b = a + b := rfl
@[simp] theorem ofRing_sub (a b : α) : NumOps.sub a b = a - b := rfl
@[simp] theorem ofRing_mul (a b : α) : NumOps.mul a b = a * b := rfl
@[simp] theorem ofRing_neg (a : α) : NumOps.neg a = -a := rfl
@[simp] theorem ofRing_zero : (NumOps.zero : α) = 0 := rfl
@[simp] theorem ofRing_one : (NumOps.one : α) = 1 := rfl
end ring

section field
variable {α : Type} [Field α] [LinearOrder α] [IsStrictOrderedRing α]
attribute [local instance] NumOps.ofField

@[simp] theorem ofField_le_iff (a b : α) : (Cmp.le a b = true) ↔ a ≤ b := cmp_le_iff a b
@[simp] theorem ofField_lt_iff (a b : α) : (Cmp.lt a b = true) ↔ a < b := cmp_lt_iff a b
@[simp] theorem ofField_add (a b : α) : NumOps.add a b = a + b := rfl
@[simp] theorem ofField_sub (a b : α) : NumOps.sub a b = a - b := rfl
@[simp] theorem ofField_mul (a b : α) : NumOps.mul a b = a * b := rfl
@[simp] theorem ofField_div (a b : α) : NumOps.div a b = a / b := rfl
@[simp] theorem ofField_neg (a : α) : NumOps.neg a = -a := rfl
@[simp] theorem ofField_zero : (NumOps.zero : α) = 0 := rfl
@[simp] theorem ofField_one : (NumOps.one : α) = 1 := rfl
end field

namespace Interval
open Set

section bounds
variable {α : Type}
theorem left_appliedBoth (A : Interval α) (f : α → α) :
    (A.appliedBoth f).left = A.left.map f := by cases A <;> rfl
theorem right_appliedBoth (A : Interval α) (f : α → α) :
    (A.appliedBoth f).right = A.right.map f := by cases A <;> rfl
theorem left_appliedFlipped (A : Interval α) (f : α → α) :
    (A.appliedFlipped f).left = A.right.map f := by cases A <;> rfl
theorem right_appliedFlipped (A : Interval α) (f : α → α) :
    (A.appliedFlipped f).right = A.left.map f := by cases A <;> rfl

theorem kind_appliedBoth (A : Interval α) (f : α → α) :
    (A.appliedBoth f).isTwoSided = A.isTwoSided ∧ (A.appliedBoth f).isUpper = A.isUpper ∧
      (A.appliedBoth f).isLower = A.isLower := by
  cases A <;> exact ⟨rfl, rfl, rfl⟩
theorem kind_appliedFlipped (A : Interval α) (f : α → α) :
    (A.appliedFlipped f).isTwoSided = A.isTwoSided ∧ (A.appliedFlipped f).isUpper = A.isLower ∧
      (A.appliedFlipped f).isLower = A.isUpper := by
  cases A <;> exact ⟨rfl, rfl, rfl⟩

theorem ne_of_kind_ne {i j : Interval α}
    (h : i.isTwoSided ≠ j.isTwoSided ∨ i.isUpper ≠ j.isUpper ∨ i.isLower ≠ j.isLower) : i ≠ j := by
  rintro rfl
  simp at h

theorem appliedBoth_cancel (A : Interval α) {f g : α → α} (h : ∀ x, g (f x) = x) :
    (A.appliedBoth f).appliedBoth g = A := by cases A <;> simp [appliedBoth, applied, h]
theorem appliedFlipped_cancel (A : Interval α) {f g : α → α} (h : ∀ x, g (f x) = x) :
    (A.appliedFlipped f).appliedFlipped g = A := by cases A <;> simp [appliedFlipped, h]

theorem eq_twoSided_of_bounds {a : Interval α} {l h : α} (hl : a.left = some l)
    (hr : a.right = some h) : a = .twoSided l h := by
  cases a <;> cases hl <;> cases hr
  rfl

end bounds

section order
variable {α : Type} [LinearOrder α]

@[simp] theorem den_twoSided (lo hi : α) : (Interval.twoSided lo hi).den = Icc lo hi := rfl
@[simp] theorem den_upper (lo : α) : (Interval.upper lo).den = Ici lo := rfl
@[simp] theorem den_lower (hi : α) : (Interval.lower hi).den = Iic hi := rfl
@[simp] theorem WF_twoSided (lo hi : α) : (Interval.twoSided lo hi).WF ↔ lo ≤ hi := Iff.rfl
@[simp] theorem WF_upper (lo : α) : (Interval.upper lo).WF := trivial
@[simp] theorem WF_lower (hi : α) : (Interval.lower hi).WF := trivial

theorem den_nonempty {A : Interval α} (hA : A.WF) : A.den.Nonempty := by
  cases A with
  | twoSided lo hi => exact ⟨lo, le_rfl, hA⟩
  | upper lo => exact ⟨lo, le_rfl⟩
  | lower hi => exact ⟨hi, le_rfl⟩

theorem WF_iff_nonempty (A : Interval α) : A.WF ↔ A.den.Nonempty := by
  refine ⟨den_nonempty, ?_⟩
  cases A with
  | twoSided lo hi => rintro ⟨z, h1, h2⟩; exact h1.trans h2
  | upper lo => intro _; trivial
  | lower hi => intro _; trivial

theorem WF_of_mem {A : Interval α} {x : α} (hx : x ∈ A.den) : A.WF :=
  (WF_iff_nonempty A).mpr ⟨x, hx⟩

/-- whatever sends the members of a well-formed interval into `B` shows `B` well-formed: this is
    how every result of an operation is seen to be well-formed, from its soundness -/
theorem WF_of_forall_mem {A B : Interval α} {f : α → α} (hA : A.WF)
    (h : ∀ x ∈ A.den, f x ∈ B.den) : B.WF :=
  let ⟨x, hx⟩ := den_nonempty hA
  WF_of_mem (h x hx)

theorem mem_den_iff_bounds (A : Interval α) (z : α) :
    z ∈ A.den ↔ (∀ l, A.left = some l → l ≤ z) ∧ (∀ h, A.right = some h → z ≤ h) := by
  cases A <;>
    simp only [den, left, right, mem_Icc, mem_Ici, mem_Iic, Option.some.injEq, forall_eq',
      reduceCtorEq, IsEmpty.forall_iff, implies_true, and_true, true_and]

theorem left_mem_den {A : Interval α} (hA : A.WF) {b : α} (h : A.left = some b) : b ∈ A.den := by
  cases A <;> cases h
  · exact ⟨le_rfl, hA⟩
  · exact le_rfl

theorem right_mem_den {A : Interval α} (hA : A.WF) {b : α} (h : A.right = some b) : b ∈ A.den := by
  cases A <;> cases h
  · exact ⟨hA, le_rfl⟩
  · exact le_rfl

theorem left_le_of_mem {A : Interval α} {b x : α} (h : A.left = some b) (hx : x ∈ A.den) :
    b ≤ x :=
  ((mem_den_iff_bounds A x).mp hx).1 b h

theorem le_right_of_mem {A : Interval α} {b x : α} (h : A.right = some b) (hx : x ∈ A.den) :
    x ≤ b :=
  ((mem_den_iff_bounds A x).mp hx).2 b h

/-- soundness needs monotonicity only, no inverse: this is what `A * k` has over an ordered ring -/
theorem mem_appliedBoth_of_mono (A : Interval α) (f : α → α) (hf : Monotone f) {x : α}
    (hx : x ∈ A.den) : f x ∈ (A.appliedBoth f).den := by
  cases A
  · exact ⟨hf hx.1, hf hx.2⟩
  · exact hf hx
  · exact hf hx

theorem mem_appliedFlipped_of_anti (A : Interval α) (f : α → α) (hf : Antitone f) {x : α}
    (hx : x ∈ A.den) : f x ∈ (A.appliedFlipped f).den := by
  cases A
  · exact ⟨hf hx.2, hf hx.1⟩
  · exact hf hx
  · exact hf hx

/-- the inclusion `⊆` is soundness of the inverse map -/
theorem den_appliedBoth_of_mono (A : Interval α) (f g : α → α) (hf : Monotone f) (hg : Monotone g)
    (hfg : ∀ x, f (g x) = x) (hgf : ∀ x, g (f x) = x) :
    (A.appliedBoth f).den = f '' A.den := by
  refine Subset.antisymm (fun z hz => ⟨g z, ?_, hfg z⟩)
    (image_subset_iff.mpr fun x => mem_appliedBoth_of_mono A f hf)
  have := mem_appliedBoth_of_mono _ g hg hz
  rwa [appliedBoth_cancel A hgf] at this

theorem den_appliedFlipped_of_anti (A : Interval α) (f g : α → α) (hf : Antitone f)
    (hg : Antitone g) (hfg : ∀ x, f (g x) = x) (hgf : ∀ x, g (f x) = x) :
    (A.appliedFlipped f).den = f '' A.den := by
  refine Subset.antisymm (fun z hz => ⟨g z, ?_, hfg z⟩)
    (image_subset_iff.mpr fun x => mem_appliedFlipped_of_anti A f hf)
  have := mem_appliedFlipped_of_anti _ g hg hz
  rwa [appliedFlipped_cancel A hgf] at this

theorem bound_appliedBoth_attained {A : Interval α} (hA : A.WF) (f : α → α) {b : α}
    (h : (A.appliedBoth f).left = some b ∨ (A.appliedBoth f).right = some b) :
    ∃ x ∈ A.den, f x = b := by
  rw [left_appliedBoth, right_appliedBoth, Option.map_eq_some_iff, Option.map_eq_some_iff] at h
  rcases h with ⟨x, hx, rfl⟩ | ⟨x, hx, rfl⟩
  · exact ⟨x, left_mem_den hA hx, rfl⟩
  · exact ⟨x, right_mem_den hA hx, rfl⟩

theorem bound_appliedFlipped_attained {A : Interval α} (hA : A.WF) (f : α → α) {b : α}
    (h : (A.appliedFlipped f).left = some b ∨ (A.appliedFlipped f).right = some b) :
    ∃ x ∈ A.den, f x = b := by
  rw [left_appliedFlipped, right_appliedFlipped, Option.map_eq_some_iff,
    Option.map_eq_some_iff] at h
  rcases h with ⟨x, hx, rfl⟩ | ⟨x, hx, rfl⟩
  · exact ⟨x, right_mem_den hA hx, rfl⟩
  · exact ⟨x, left_mem_den hA hx, rfl⟩

/-- `a` ends where `b` begins, or before: `high a ≤ low b`, both bounds present. Off the diagonal
    this is all `partial_cmp` looks at (its two guarded or-patterns in `interval.rs`). -/
def Below (a b : Interval α) : Prop := ∃ h l, a.right = some h ∧ b.left = some l ∧ h ≤ l

theorem not_below_of_right_none {a b : Interval α} (h : a.right = none) : ¬ Below a b := by
  rintro ⟨_, _, hr, -⟩
  exact Option.some_ne_none _ (hr.symm.trans h)

theorem not_below_of_left_none {a b : Interval α} (h : b.left = none) : ¬ Below a b := by
  rintro ⟨_, _, -, hl, -⟩
  exact Option.some_ne_none _ (hl.symm.trans h)

theorem Below.forall_mem_le {a b : Interval α} (h : Below a b) :
    ∀ x ∈ a.den, ∀ y ∈ b.den, x ≤ y := by
  obtain ⟨h, l, h1, h2, h3⟩ := h
  exact fun x hx y hy => (le_right_of_mem h1 hx).trans (h3.trans (left_le_of_mem h2 hy))

theorem Below.trans {a b c : Interval α} (hb : b.WF) (h1 : Below a b) (h2 : Below b c) :
    Below a c := by
  obtain ⟨h, l, e1, e2, h3⟩ := h1
  obtain ⟨h', l', e1', e2', h3'⟩ := h2
  exact ⟨h, l', e1, e2', h3.trans ((left_le_of_mem e2 (right_mem_den hb e1')).trans h3')⟩

/-- two well-formed intervals each below the other are the same single point -/
theorem Below.antisymm {a b : Interval α} (ha : a.WF) (hb : b.WF) (h1 : Below a b)
    (h2 : Below b a) : a = b := by
  obtain ⟨h, l, e1, e2, h3⟩ := h1
  obtain ⟨h', l', e1', e2', h3'⟩ := h2
  obtain rfl := eq_twoSided_of_bounds e2' e1
  obtain rfl := eq_twoSided_of_bounds e2 e1'
  rw [WF_twoSided] at ha hb
  rw [le_antisymm (ha.trans h3) (hb.trans h3'), le_antisymm (h3.trans hb) (h3'.trans ha)]

section cmp
attribute [local instance] Cmp.ofLinearOrder

theorem partialCmp_self (a : Interval α) : partialCmp a a = some .eq := by
  simp [partialCmp, (Interval.beq_iff_eq a a).mpr rfl]

open Classical in
theorem partialCmp_of_ne {a b : Interval α} (he : a ≠ b) :
    partialCmp a b = if Below b a then some .gt else if Below a b then some .lt else none := by
  have hbq : beq a b = false := by rwa [← Bool.not_eq_true, Interval.beq_iff_eq]
  unfold partialCmp
  rw [hbq, if_neg Bool.false_ne_true]
  cases a <;> cases b <;>
    simp only [ge_iff', Below, left, right, Option.some.injEq, reduceCtorEq, false_and, and_false,
      and_self, exists_false, exists_and_left, ↓existsAndEq, true_and, exists_eq_left', ↓reduceIte]

theorem partialCmp_gt_iff (a b : Interval α) : partialCmp a b = some .gt ↔ a ≠ b ∧ Below b a := by
  by_cases he : a = b
  · simp [he, partialCmp_self]
  · rw [partialCmp_of_ne he]
    split_ifs <;> simp [*]

/-- well-formedness is what keeps `Less` from being shadowed by the `Greater` arm -/
theorem partialCmp_lt_iff (a b : Interval α) (ha : a.WF) (hb : b.WF) :
    partialCmp a b = some .lt ↔ a ≠ b ∧ Below a b := by
  by_cases he : a = b
  · simp [he, partialCmp_self]
  · rw [partialCmp_of_ne he]
    split_ifs with h1 h2
    · simpa [he] using fun h2 => he (h2.antisymm ha hb h1)
    · simp [*]
    · simp [*]

end cmp

theorem below_iff_forall_mem_le [NoMaxOrder α] [NoMinOrder α] {a b : Interval α} (ha : a.WF)
    (hb : b.WF) : Below a b ↔ ∀ x ∈ a.den, ∀ y ∈ b.den, x ≤ y := by
  refine ⟨Below.forall_mem_le, fun H => ?_⟩
  obtain ⟨x0, hx0⟩ := den_nonempty ha
  obtain ⟨y0, hy0⟩ := den_nonempty hb
  cases har : a.right with
  | none =>
    obtain ⟨x, hx, hlt⟩ := exists_mem_gt_of_right_none har y0
    exact absurd (H x hx y0 hy0) (not_le.mpr hlt)
  | some h =>
    cases hbl : b.left with
    | none =>
      obtain ⟨y, hy, hlt⟩ := exists_mem_lt_of_left_none hbl x0
      exact absurd (H x0 hx0 y hy) (not_le.mpr hlt)
    | some l =>
      exact ⟨h, l, har, hbl, H h (right_mem_den ha har) l (left_mem_den hb hbl)⟩

theorem isLower_eq_false_of_forall_ge [NoMinOrder α] {A : Interval α} {c : α}
    (h : ∀ x ∈ A.den, c ≤ x) : A.isLower = false := by
  cases A with
  | lower hi =>
    obtain ⟨x, hx, hlt⟩ := exists_mem_lt_of_left_none (A := .lower hi) rfl c
    exact absurd (h x hx) hlt.not_ge
  | _ => rfl

end order

section ring
variable {α : Type} [CommRing α] [LinearOrder α] [IsStrictOrderedRing α]
attribute [local instance] NumOps.ofRing

theorem addScalar_eq (A : Interval α) (k : α) : A.addScalar k = A.appliedBoth (· + k) := rfl
theorem subScalar_eq (A : Interval α) (k : α) : A.subScalar k = A.appliedBoth (· - k) := rfl
theorem negI_eq (A : Interval α) : A.negI = A.appliedFlipped (fun x => -x) := rfl

theorem mulScalar_of_neg (A : Interval α) {k : α} (hk : k < 0) :
    A.mulScalar k = A.appliedFlipped (· * k) := by
  simp [mulScalar, hk]

theorem mulScalar_of_pos (A : Interval α) {k : α} (hk : 0 < k) :
    A.mulScalar k = A.appliedBoth (· * k) := by
  simp [mulScalar, hk, not_lt.mpr hk.le, gt]

theorem mulScalar_zero (A : Interval α) : A.mulScalar 0 = .twoSided 0 0 := by
  cases A <;> simp [mulScalar, gt]

theorem mono_add_const (k : α) : Monotone (fun x : α => x + k) := fun _ _ h =>
  add_le_add_left h k
theorem mono_sub_const (k : α) : Monotone (fun x : α => x - k) := fun _ _ h =>
  sub_le_sub_right h k
theorem anti_neg : Antitone (fun x : α => -x) := fun _ _ h => neg_le_neg h
theorem mono_mul_const {k : α} (hk : 0 ≤ k) : Monotone (fun x : α => x * k) := fun _ _ h =>
  mul_le_mul_of_nonneg_right h hk
theorem anti_mul_const {k : α} (hk : k ≤ 0) : Antitone (fun x : α => x * k) := fun _ _ h =>
  mul_le_mul_of_nonpos_right h hk

theorem addI_bounds {A B C : Interval α} (h : A.addI B = some C) :
    C.left = A.left.bind (fun a => B.left.map (a + ·)) ∧
    C.right = A.right.bind (fun b => B.right.map (b + ·)) := by
  cases A <;> cases B <;> cases h <;> exact ⟨rfl, rfl⟩

theorem image2_add_upper_lower (a b : α) : image2 (· + ·) (Ici a) (Iic b) = univ :=
  eq_univ_of_forall fun z => ⟨max a (z - b), le_max_left _ _, z - max a (z - b),
    sub_le_comm.mp (le_max_right _ _), add_sub_cancel _ z⟩

/-- so that everything about `Sub<Interval>` comes from `Add<Interval>` and `Neg` -/
theorem subI_eq_addI_negI (A B : Interval α) : A.subI B = A.addI B.negI := by
  cases A <;> cases B <;>
    simp only [subI, addI, negI, appliedFlipped, ofRing_sub, ofRing_add, ofRing_neg, sub_eq_add_neg]

end ring

section field
variable {α : Type} [Field α] [LinearOrder α] [IsStrictOrderedRing α]

/-- Over a field the model functions that do not divide are the same under both instances.
    (Unfolded first: on the folded terms `rfl` starts by comparing the two instances, which fails
    only after both structures have been taken apart.) -/
theorem addScalar_ofField (A : Interval α) (k : α) :
    @addScalar α (NumOps.ofField α) A k = @addScalar α (NumOps.ofRing α) A k := by
  unfold addScalar; rfl
theorem subScalar_ofField (A : Interval α) (k : α) :
    @subScalar α (NumOps.ofField α) A k = @subScalar α (NumOps.ofRing α) A k := by
  unfold subScalar; rfl
theorem mulScalar_ofField (A : Interval α) (k : α) :
    @mulScalar α (NumOps.ofField α) A k = @mulScalar α (NumOps.ofRing α) A k := by
  unfold mulScalar; rfl
theorem negI_ofField (A : Interval α) :
    @negI α (NumOps.ofField α) A = @negI α (NumOps.ofRing α) A := by
  unfold negI; rfl
theorem addI_ofField (A B : Interval α) :
    @addI α (NumOps.ofField α) A B = @addI α (NumOps.ofRing α) A B := by
  unfold addI; rfl
theorem subI_ofField (A B : Interval α) :
    @subI α (NumOps.ofField α) A B = @subI α (NumOps.ofRing α) A B := by
  unfold subI; rfl
theorem width_ofField (A : Interval α) :
    @width α (NumOps.ofField α) A = @width α (NumOps.ofRing α) A := by
  unfold width; rfl

attribute [local instance] NumOps.ofField

theorem divScalar_of_neg (A : Interval α) {k : α} (hk : k < 0) :
    A.divScalar k = A.appliedFlipped (· / k) := by
  simp [divScalar, hk]

theorem divScalar_of_pos (A : Interval α) {k : α} (hk : 0 < k) :
    A.divScalar k = A.appliedBoth (· / k) := by
  simp [divScalar, not_lt.mpr hk.le]

/-- so that everything about `Div<F>` comes from `Mul<F>` -/
theorem divScalar_eq_mulScalar_inv (A : Interval α) {k : α} (hk : k ≠ 0) :
    A.divScalar k = A.mulScalar k⁻¹ := by
  rw [mulScalar_ofField]
  rcases lt_or_gt_of_ne hk with h | h
  · rw [divScalar_of_neg A h, mulScalar_of_neg A (inv_lt_zero.mpr h)]
    simp only [div_eq_mul_inv]
  · rw [divScalar_of_pos A h, mulScalar_of_pos A (inv_pos.mpr h)]
    simp only [div_eq_mul_inv]

omit [LinearOrder α] [IsStrictOrderedRing α] in
theorem rel_eq (X : α) {r : α} (hr : r ≠ 0) : (X - r) / r = X / r - 1 := by
  rw [sub_div, div_self hr]

theorem rel_le_rel {x X r b : α} (hx : 0 ≤ x) (hxX : x ≤ X) (hr : 0 < r) (hrb : r ≤ b) :
    (x - b) / b ≤ (X - r) / r := by
  rw [rel_eq x (hr.trans_le hrb).ne', rel_eq X hr.ne']
  exact sub_le_sub_right (div_le_div₀ (hx.trans hxX) hxX hr hrb) 1

/-- `relative_to` works bound by bound: its or-patterns in `interval.rs` -/
theorem relativeTo_bounds {A R C : Interval α} (h : A.relativeTo R = some C) :
    C.left = A.left.bind (fun x => R.right.map fun b => (x - b) / b) ∧
    C.right = A.right.bind (fun y => R.left.map fun a => (y - a) / a) := by
  cases R <;> cases A <;>
    simp only [relativeTo, ite_eq_iff, ite_self, reduceCtorEq, and_false, false_or,
      Option.some.injEq] at h <;>
    obtain ⟨-, rfl⟩ := h <;> exact ⟨rfl, rfl⟩

theorem image2_rel_Icc {x y a b : α} (hx : 0 ≤ x) (hxy : x ≤ y) (ha : 0 < a) (hab : a ≤ b) :
    Icc ((x - b) / b) ((y - a) / a) = image2 (fun X r => (X - r) / r) (Icc x y) (Icc a b) := by
  have hb : 0 < b := lt_of_lt_of_le ha hab
  ext z
  simp only [mem_image2, mem_Icc]
  constructor
  · rw [rel_eq x hb.ne', rel_eq y ha.ne', sub_le_iff_le_add, le_sub_iff_add_le, div_le_iff₀ hb,
      le_div_iff₀ ha]
    rintro ⟨h1, h2⟩
    -- `z + 1` is the ratio wanted: `(z + 1) * b / b` if that numerator is in range, else
    -- `y / (y / (z + 1))`
    by_cases hc : (z + 1) * b ≤ y
    · refine ⟨(z + 1) * b, ⟨h1, hc⟩, b, ⟨hab, le_rfl⟩, ?_⟩
      rw [rel_eq _ hb.ne', mul_div_cancel_right₀ _ hb.ne', add_sub_cancel_right]
    · have hc' : y < (z + 1) * b := not_le.mp hc
      have hw : 0 < z + 1 := (mul_pos_iff_of_pos_right hb).mp ((hx.trans hxy).trans_lt hc')
      have hy : 0 < y := (mul_pos hw ha).trans_le h2
      refine ⟨y, ⟨hxy, le_rfl⟩, y / (z + 1),
        ⟨(le_div_iff₀' hw).mpr h2, (div_le_iff₀' hw).mpr hc'.le⟩, ?_⟩
      rw [rel_eq _ (div_pos hy hw).ne', div_div_cancel₀ hy.ne', add_sub_cancel_right]
  · rintro ⟨X, ⟨hX1, hX2⟩, r, ⟨hr1, hr2⟩, rfl⟩
    have hr : 0 < r := lt_of_lt_of_le ha hr1
    exact ⟨rel_le_rel hx hX1 hr hr2, rel_le_rel (hx.trans hX1) hX2 ha hr1⟩

end field

end Interval
end StatsCI
