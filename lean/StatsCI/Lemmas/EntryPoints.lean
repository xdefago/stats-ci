/-
  StatsCI.Lemmas.EntryPoints — every entry point of the model, on every carrier: which input gives
  which outcome.

  Each entry point gets one equation that spells its chain of guards out as a conditional (`…_eq`)
  and after it, read off the equation by the lemmas of `Lemmas/Outcome` about one guard and about
  `bind`, which inputs are answered `Ok`, which with which error, which with a panic. The few
  definitions name what the model computes between two guards; the predicates say what an `Ok`
  looks like. At the head, the two law classes a carrier may satisfy (`LawfulCmp`, `LawfulCount`);
  under the second `ci_mean` never panics (`Arith.ciMean_isPanic`).
  Beyond `Lemmas/Outcome` only the model is imported: the module sits below the carriers `RR` and
  `XR`.
-/
import StatsCI.Lemmas.Outcome

namespace StatsCI.MeanLemmas
open StatsCI NumOps Scalar

theorem Arith.ciMean_eq_finish {F W : Type} [Scalar F] [Scalar W] [Widen F W] (crit : Crit W)
    (a : Arith F) (conf : Confidence W) :
    a.ciMean crit conf = finish crit conf (Arith.ciPrep a) := rfl

theorem Arith.ci_eq_finish {F W : Type} [Scalar F] [Scalar W] [Widen F W] (crit : Crit W)
    (conf : Confidence W) (ys : List F) :
    Arith.ci crit conf ys = finish crit conf (Arith.ciPrep (Arith.fromList ys)) := rfl

theorem Unpaired.ciMean_eq_finish {F W : Type} [Scalar F] [Scalar W] [Widen F W] (crit : Crit W)
    (u : Unpaired F) (conf : Confidence W) :
    u.ciMean crit conf = finish crit conf (Unpaired.ciPrep u) := rfl

theorem Unpaired.fromLists_a {F : Type} [Scalar F] (xs ys : List F) :
    (Unpaired.fromLists xs ys).a = Arith.fromList xs := rfl
theorem Unpaired.fromLists_b {F : Type} [Scalar F] (xs ys : List F) :
    (Unpaired.fromLists xs ys).b = Arith.fromList ys := rfl

end StatsCI.MeanLemmas

namespace StatsCI
open NumOps Scalar

/-! ## what is asked of a carrier -/

/-- On finite values the Boolean comparisons form a total preorder and `<` is the strict part of
    `≤`. Nothing is said about arithmetic, nor about non-finite values. -/
class LawfulCmp (α : Type) [Scalar α] : Prop where
  le_refl : ∀ x : α, isFinite x = true → le x x = true
  le_total : ∀ x y : α, isFinite x = true → isFinite y = true → le x y = true ∨ le y x = true
  le_trans : ∀ x y z : α, isFinite x = true → isFinite y = true → isFinite z = true →
    le x y = true → le y z = true → le x z = true
  lt_eq_not_le : ∀ x y : α, isFinite x = true → isFinite y = true → lt x y = !le y x

/-- the one arithmetic sanity fact `ci_mean` relies on: `n − 1 > 0` in the carrier for `n ≥ 2` -/
class LawfulCount (W : Type) [Scalar W] : Prop where
  pred_pos : ∀ n : Nat, 2 ≤ n → gt (sub (Scalar.ofNat n : W) one) (zero : W) = true

/-! ## `Arithmetic::ci_mean` -/

/-- the finiteness guard `if !a || !b { … }` of `ci_mean`, read positively -/
theorem ite_not_or_not {α : Type} (a b : Bool) (x y : α) :
    (if (!a || !b) = true then x else y) = if a = true ∧ b = true then y else x := by
  cases a <;> cases b <;> rfl

namespace Arith
open MeanLemmas
variable {F W : Type} [Scalar F] [Scalar W] [Widen F W]

theorem _root_.StatsCI.MeanLemmas.Arith.extend_nil (a : Arith F) : a.extend [] = a := rfl

theorem extend_cons (a : Arith F) (x : F) (xs : List F) :
    a.extend (x :: xs) = (a.append x).extend xs := rfl

theorem extend_append (a : Arith F) (xs ys : List F) :
    a.extend (xs ++ ys) = (a.extend xs).extend ys := by
  simp [Arith.extend, List.foldl_append]

theorem extend_fields (xs : List F) (a : Arith F) :
    (a.extend xs).sum = a.sum.addList xs ∧
    (a.extend xs).sumSq = a.sumSq.addList (xs.map fun x => NumOps.mul x x) ∧
    (a.extend xs).count = a.count + xs.length := by
  induction xs generalizing a with
  | nil => exact ⟨rfl, rfl, rfl⟩
  | cons x xs ih =>
    obtain ⟨h1, h2, h3⟩ := ih (a.append x)
    exact ⟨h1, h2, h3.trans (by simp only [Arith.append, List.length_cons]; omega)⟩

theorem extend_count (a : Arith F) (xs : List F) : (a.extend xs).count = a.count + xs.length :=
  (extend_fields xs a).2.2

theorem variance?_eq (a : Arith F) :
    a.variance? = if a.count = 0 then none else some a.variance := rfl

theorem ciMean_congr (crit : Crit W) (a b : Arith F) (conf : Confidence W)
    (hc : a.count = b.count) (hm : a.mean = b.mean) (hs : a.stdDev = b.stdDev) :
    a.ciMean crit conf = b.ciMean crit conf := by
  unfold Arith.ciMean Arith.ciPrep
  rw [hc, hm, hs]

/-- every query of `Arith` is a function of `(sum.value, sumSq.value, count)` -/
theorem obs_congr (a b : Arith F) (h1 : a.sum.value = b.sum.value)
    (h2 : a.sumSq.value = b.sumSq.value) (h3 : a.count = b.count) :
    a.sampleCount = b.sampleCount ∧ a.mean = b.mean ∧ a.variance = b.variance ∧
    a.variance? = b.variance? ∧ a.stdDev = b.stdDev ∧ a.sem = b.sem ∧
    ∀ (crit : Crit W) (conf : Confidence W),
      Arith.ciMean crit a conf = Arith.ciMean crit b conf := by
  have hm : a.mean = b.mean := by simp only [Arith.mean, h1, h3]
  have hv : a.variance = b.variance := by simp only [Arith.variance, hm, h1, h2, h3]
  have hv? : a.variance? = b.variance? := by rw [variance?_eq, variance?_eq, h3, hv]
  have hsd : a.stdDev = b.stdDev := by simp only [Arith.stdDev, hv]
  have hsem : a.sem = b.sem := by simp only [Arith.sem, hsd, h3]
  exact ⟨h3, hm, hv, hv?, hsd, hsem, fun crit conf => ciMean_congr crit a b conf h3 hm hsd⟩

theorem fromList_count (xs : List F) : (fromList xs).count = xs.length := by
  unfold fromList; rw [extend_count]; simp [empty]

/-- what `ci_mean` hands to `interval_bounds` for a state that passes the guards:
    `mean`, `sem = sd/√n`, `dof = n − 1`. (This `sem` is the field `Prep.sem`; the public accessor
    `sample_sem()`, `Arith.sem`, divides by `√(n − 1)`.) -/
def prepOf (a : Arith F) : Prep W :=
  ⟨Widen.up a.mean, div (Widen.up a.stdDev) (sqrt (Scalar.ofNat a.count)),
    sub (Scalar.ofNat a.count) one⟩

theorem ciPrep_eq (a : Arith F) : (ciPrep a : Outcome (Err W) (Prep W)) =
    if a.count < 2 then .err (.tooFewSamples a.count)
    else if isFinite (Widen.up a.mean : W) = true ∧ isFinite (Widen.up a.stdDev : W) = true
      then .ok (prepOf a) else .err .invalidInputData := by
  unfold ciPrep prepOf
  simp only [ite_not_or_not]

theorem ciPrep_eq_ok_iff {a : Arith F} {p : Prep W} :
    (ciPrep a : Outcome (Err W) (Prep W)) = .ok p ↔ 2 ≤ a.count ∧
      isFinite (Widen.up a.mean : W) = true ∧ isFinite (Widen.up a.stdDev : W) = true ∧
      p = prepOf a := by
  simp only [ciPrep_eq, Outcome.ite_err_eq_ok_iff, Outcome.ite_else_err_eq_ok_iff, Outcome.ok.injEq,
    Nat.not_lt, and_assoc, @eq_comm _ p]

theorem ciPrep_eq_err_iff {a : Arith F} {e : Err W} :
    (ciPrep a : Outcome (Err W) (Prep W)) = .err e ↔
      (a.count < 2 ∧ e = .tooFewSamples a.count) ∨
      (2 ≤ a.count ∧ e = .invalidInputData ∧
        (isFinite (Widen.up a.mean : W) = false ∨ isFinite (Widen.up a.stdDev : W) = false)) := by
  simp only [ciPrep_eq, Outcome.ite_err_eq_err_iff, Outcome.ite_else_err_eq_err_iff, reduceCtorEq,
    and_false, false_or, Nat.not_lt, Classical.not_and_iff_not_or_not, Bool.not_eq_true,
    and_comm (b := e = _)]

@[simp] theorem ciPrep_isPanic (a : Arith F) :
    (ciPrep a : Outcome (Err W) (Prep W)).isPanic = false := by
  rw [ciPrep_eq]
  exact Outcome.isPanic_ite_err (by split <;> rfl)

theorem ciMean_eq (crit : Crit W) (a : Arith F) (conf : Confidence W) :
    ciMean crit a conf =
      if a.count < 2 then .err (.tooFewSamples a.count)
      else if isFinite (Widen.up a.mean : W) = true ∧ isFinite (Widen.up a.stdDev : W) = true
        then MeanLemmas.finish crit conf (.ok (prepOf a)) else .err .invalidInputData := by
  rw [MeanLemmas.Arith.ciMean_eq_finish, ciPrep_eq, apply_ite (MeanLemmas.finish crit conf),
    apply_ite (MeanLemmas.finish crit conf)]
  rfl

theorem ciMean_eq_ok_iff {crit : Crit W} {a : Arith F} {conf : Confidence W} {i : Interval F} :
    ciMean crit a conf = .ok i ↔
      2 ≤ a.count ∧ isFinite (Widen.up a.mean : W) = true ∧ isFinite (Widen.up a.stdDev : W) = true ∧
      (lt (prepOf a : Prep W).dof (populationLimit : W) = true →
        gt (prepOf a : Prep W).dof (zero : W) = true) ∧
      probOk conf.quantile = true ∧
      intervalOfKind conf (Prep.lo (crit (critReq conf (prepOf a : Prep W).dof)) (prepOf a) : F)
        (Prep.hi (crit (critReq conf (prepOf a : Prep W).dof)) (prepOf a)) =
          (.ok i : Outcome (Err W) (Interval F)) := by
  simp only [ciMean_eq, Outcome.ite_err_eq_ok_iff, Outcome.ite_else_err_eq_ok_iff, finish_ok_eq,
    Outcome.ite_panic_eq_ok_iff, Nat.not_lt, and_assoc]

theorem ciMean_of_lt (crit : Crit W) (a : Arith F) (conf : Confidence W) (h : a.count < 2) :
    ciMean crit a conf = .err (.tooFewSamples a.count) := by
  rw [ciMean_eq, if_pos h]

theorem ci_of_lt (crit : Crit W) (conf : Confidence W) (ys : List F) (h : ys.length < 2) :
    ci crit conf ys = .err (.tooFewSamples ys.length) := by
  have := ciMean_of_lt crit (fromList ys) conf (by rwa [fromList_count])
  rwa [fromList_count] at this

theorem ciMean_of_nonfinite (crit : Crit W) (a : Arith F) (conf : Confidence W) (h : 2 ≤ a.count)
    (hf : isFinite (Widen.up a.mean : W) = false ∨ isFinite (Widen.up a.stdDev : W) = false) :
    ciMean crit a conf = .err .invalidInputData := by
  rw [MeanLemmas.Arith.ciMean_eq_finish, ciPrep_eq_err_iff.mpr (Or.inr ⟨h, rfl, hf⟩)]; rfl

theorem ciMean_isPanic_iff (crit : Crit W) (a : Arith F) (conf : Confidence W) :
    (ciMean crit a conf).isPanic = true ↔
      2 ≤ a.count ∧ isFinite (Widen.up a.mean : W) = true ∧ isFinite (Widen.up a.stdDev : W) = true ∧
      ((lt (sub (Scalar.ofNat a.count) one : W) (populationLimit : W) = true ∧
          gt (sub (Scalar.ofNat a.count) one : W) (zero : W) = false) ∨
        probOk conf.quantile = false) := by
  simp only [ciMean_eq, Outcome.isPanic_ite_err_iff, Outcome.isPanic_ite_else_err_iff, finish_ok_eq,
    Outcome.isPanic_ite_panic_iff, intervalOfKind_isPanic, Bool.false_eq_true, or_false,
    Classical.not_imp, Bool.not_eq_true, Nat.not_lt, and_assoc]
  rfl

/-- past its guards `ci_mean` asks for Student-t with `n − 1 > 0` under a lawful count -/
theorem ciMean_isPanic [LawfulCount W] (crit : Crit W) (a : Arith F) (conf : Confidence W)
    (hq : probOk conf.quantile = true) : (ciMean crit a conf).isPanic = false := by
  rw [Bool.eq_false_iff, Ne, ciMean_isPanic_iff]
  rintro ⟨h2, _, _, ⟨_, hg⟩ | h⟩
  · rw [LawfulCount.pred_pos a.count h2] at hg; cases hg
  · rw [hq] at h; cases h

end Arith

/-! ## `Unpaired::ci_mean` -/

namespace Unpaired
open MeanLemmas
variable {F W : Type} [Scalar F] [Scalar W] [Widen F W]

/-- `s²/n` of one sample, in the crate's operation order -/
def s2n (a : Arith F) : F := div (mul a.stdDev a.stdDev) (Scalar.ofNat a.count)
def meanDiff (u : Unpaired F) : F := sub u.a.mean u.b.mean
/-- the standard error of the difference -/
def semF (u : Unpaired F) : F := sqrt (add (s2n u.a) (s2n u.b))
/-- the effective degrees of freedom evaluated in the data type `F`. (`ci_mean` evaluates them in the
    wide type, `dofW`; on a carrier with `F = W` and the identity `Widen` the two agree,
    `dofW_eq_dofF_RR`, `dofW_eq_dofF_XR`.) -/
def dofF (u : Unpaired F) : F :=
  clampDof (effectiveDof (s2n u.a) (s2n u.b) (Scalar.ofNat u.a.count) (Scalar.ofNat u.b.count))
    (Scalar.ofNat u.a.count) (Scalar.ofNat u.b.count)
/-- the effective degrees of freedom `ci_mean` hands on: evaluated in the wide type `W` from the
    widened variance terms `s²/n` and the widened counts -/
def dofW (u : Unpaired F) : W :=
  clampDof (effectiveDof (Widen.up (s2n u.a)) (Widen.up (s2n u.b))
      (Widen.up (Scalar.ofNat u.a.count : F)) (Widen.up (Scalar.ofNat u.b.count : F)))
    (Widen.up (Scalar.ofNat u.a.count : F)) (Widen.up (Scalar.ofNat u.b.count : F))

/-- what `Unpaired::ci_mean` hands to `interval_bounds` for a state that passes the guards -/
def prepOf (u : Unpaired F) : Arith.Prep W := ⟨Widen.up (meanDiff u), Widen.up (semF u), dofW u⟩

theorem ciPrep_eq (u : Unpaired F) : (ciPrep u : Outcome (Err W) (Arith.Prep W)) =
    if u.a.count < 2 then .err (.tooFewSamples u.a.count)
    else if u.b.count < 2 then .err (.tooFewSamples u.b.count)
    else if isFinite (meanDiff u) = true ∧ isFinite (semF u) = true
      then .ok (prepOf u) else .err .invalidInputData := by
  unfold ciPrep prepOf meanDiff semF dofW s2n
  simp only [ite_not_or_not]

theorem ciPrep_eq_ok_iff {u : Unpaired F} {p : Arith.Prep W} :
    (ciPrep u : Outcome (Err W) (Arith.Prep W)) = .ok p ↔ 2 ≤ u.a.count ∧ 2 ≤ u.b.count ∧
      isFinite (meanDiff u) = true ∧ isFinite (semF u) = true ∧ p = prepOf u := by
  simp only [ciPrep_eq, Outcome.ite_err_eq_ok_iff, Outcome.ite_else_err_eq_ok_iff, Outcome.ok.injEq,
    Nat.not_lt, and_assoc, @eq_comm _ p]

@[simp] theorem ciPrep_isPanic (u : Unpaired F) :
    (ciPrep u : Outcome (Err W) (Arith.Prep W)).isPanic = false := by
  rw [ciPrep_eq]
  exact Outcome.isPanic_ite_err (Outcome.isPanic_ite_err (by split <;> rfl))

theorem ciMean_eq (crit : Crit W) (u : Unpaired F) (conf : Confidence W) :
    ciMean crit u conf =
      if u.a.count < 2 then .err (.tooFewSamples u.a.count)
      else if u.b.count < 2 then .err (.tooFewSamples u.b.count)
      else if isFinite (meanDiff u) = true ∧ isFinite (semF u) = true
        then MeanLemmas.finish crit conf (.ok (prepOf u)) else .err .invalidInputData := by
  rw [MeanLemmas.Unpaired.ciMean_eq_finish, ciPrep_eq, apply_ite (MeanLemmas.finish crit conf),
    apply_ite (MeanLemmas.finish crit conf), apply_ite (MeanLemmas.finish crit conf)]
  rfl

theorem ciMean_eq_ok_iff {crit : Crit W} {u : Unpaired F} {conf : Confidence W} {i : Interval F} :
    ciMean crit u conf = .ok i ↔
      2 ≤ u.a.count ∧ 2 ≤ u.b.count ∧ isFinite (meanDiff u) = true ∧ isFinite (semF u) = true ∧
      (lt (dofW u : W) (populationLimit : W) = true → gt (dofW u : W) (zero : W) = true) ∧
      probOk conf.quantile = true ∧
      intervalOfKind conf (Prep.lo (crit (critReq conf (dofW u))) (prepOf u) : F)
        (Prep.hi (crit (critReq conf (dofW u))) (prepOf u)) =
          (.ok i : Outcome (Err W) (Interval F)) := by
  simp only [ciMean_eq, Outcome.ite_err_eq_ok_iff, Outcome.ite_else_err_eq_ok_iff, finish_ok_eq,
    Outcome.ite_panic_eq_ok_iff, Nat.not_lt, and_assoc]
  rfl

theorem ciMean_isPanic_iff (crit : Crit W) (u : Unpaired F) (conf : Confidence W) :
    (ciMean crit u conf).isPanic = true ↔
      2 ≤ u.a.count ∧ 2 ≤ u.b.count ∧ isFinite (meanDiff u) = true ∧ isFinite (semF u) = true ∧
      ((lt (dofW u : W) (populationLimit : W) = true ∧
          gt (dofW u : W) (zero : W) = false) ∨
        probOk conf.quantile = false) := by
  simp only [ciMean_eq, Outcome.isPanic_ite_err_iff, Outcome.isPanic_ite_else_err_iff, finish_ok_eq,
    Outcome.isPanic_ite_panic_iff, intervalOfKind_isPanic, Bool.false_eq_true, or_false,
    Classical.not_imp, Bool.not_eq_true, Nat.not_lt, and_assoc]
  rfl

/-- `Unpaired::ci_mean` computes its degrees of freedom: it never panics when, past the guards on
    the two counts, a value that calls for Student-t is positive -/
theorem ciMean_isPanic (crit : Crit W) (u : Unpaired F) (conf : Confidence W)
    (hq : probOk conf.quantile = true)
    (hd : 2 ≤ u.a.count → 2 ≤ u.b.count → lt (dofW u : W) (populationLimit : W) = true →
      gt (dofW u : W) (zero : W) = true) :
    (ciMean crit u conf).isPanic = false := by
  rw [Bool.eq_false_iff, Ne, ciMean_isPanic_iff]
  rintro ⟨h1, h2, _, _, ⟨hl, hg⟩ | h⟩
  · rw [hd h1 h2 hl] at hg; cases hg
  · rw [hq] at h; cases h

end Unpaired

/-! ## `Paired::extend`, `Paired::extend_tuple`, `Paired::ci` -/

namespace Paired
variable {F W : Type} [Scalar F]

/-- `extend(data_a, data_b)`: the common prefix is appended whatever the lengths (`zipWith` stops at
    the shorter list), and unequal lengths are reported -/
theorem extendAux_eq (p : Paired F) (c : Nat) (as bs : List F) :
    (extendAux p c as bs : Outcome (Err W) (Paired F) × Paired F) =
      (if as.length = bs.length then .ok ⟨p.stats.extend (List.zipWith sub as bs)⟩
        else .err (.differentSampleSizes (c + as.length) (c + bs.length)),
       ⟨p.stats.extend (List.zipWith sub as bs)⟩) := by
  induction as generalizing p c bs with
  | nil =>
    cases bs with
    | nil => rfl
    | cons y ys =>
      rw [List.length_cons, List.length_nil, if_neg (Nat.succ_ne_zero _).symm,
        Nat.add_comm ys.length, ← Nat.add_assoc]
      rfl
  | cons x xs ih =>
    cases bs with
    | nil =>
      rw [List.length_cons, List.length_nil, if_neg (Nat.succ_ne_zero _),
        Nat.add_comm xs.length, ← Nat.add_assoc]
      rfl
    | cons y ys =>
      refine (ih (p.appendPair x y) (c + 1) ys).trans ?_
      simp only [List.length_cons, Nat.add_right_cancel_iff, Nat.add_assoc, Nat.add_comm 1]
      rfl

theorem extendAux_fst (p : Paired F) (c : Nat) (as bs : List F) :
    ((extendAux p c as bs).1 : Outcome (Err W) (Paired F)) =
      if as.length = bs.length then .ok ⟨p.stats.extend (List.zipWith sub as bs)⟩
      else .err (.differentSampleSizes (c + as.length) (c + bs.length)) := by
  rw [extendAux_eq]

theorem extendAux_eq_len (p : Paired F) (c : Nat) (as bs : List F) (h : as.length = bs.length) :
    (extendAux p c as bs : Outcome (Err W) (Paired F) × Paired F) =
      (.ok ⟨p.stats.extend (List.zipWith sub as bs)⟩, ⟨p.stats.extend (List.zipWith sub as bs)⟩) := by
  rw [extendAux_eq, if_pos h]

theorem extendTuple_zip (p : Paired F) (as bs : List F) :
    (extendTuple p (as.zip bs)).stats = p.stats.extend (List.zipWith sub as bs) := by
  induction as generalizing p bs with
  | nil => rfl
  | cons a as ih =>
    cases bs with
    | nil => rfl
    | cons b bs => exact ih (p.appendPair a b) bs

variable [Scalar W] [Widen F W]

theorem ci_eq (crit : Crit W) (conf : Confidence W) (as bs : List F) :
    ci crit conf as bs =
      if as.length = bs.length then Arith.ci crit conf (List.zipWith sub as bs)
      else .err (.differentSampleSizes as.length bs.length) := by
  unfold ci extend
  rw [extendAux_fst, Nat.zero_add, Nat.zero_add, apply_ite (Outcome.bind · _)]
  rfl

theorem ci_of_length_ne (crit : Crit W) (conf : Confidence W) {as bs : List F}
    (h : as.length ≠ bs.length) :
    ci crit conf as bs = .err (.differentSampleSizes as.length bs.length) := by
  rw [ci_eq, if_neg h]

theorem ci_of_length_eq (crit : Crit W) (conf : Confidence W) {as bs : List F}
    (h : as.length = bs.length) :
    ci crit conf as bs = Arith.ciMean crit (Arith.fromList (List.zipWith sub as bs)) conf := by
  rw [ci_eq, if_pos h]
  rfl

end Paired

/-! ## `Geometric` and `Harmonic`: the guarded `extend` loop, `ci` -/

section guarded
variable {F W : Type} [Scalar F] [Widen F W]

theorem find?_nonpos_eq_none {xs : List F} (h : ∀ x ∈ xs, le x (zero : F) = false) :
    xs.find? (fun x => le x (zero : F)) = none := by
  rw [List.find?_eq_none]
  intro x hx
  rw [h x hx]
  exact Bool.false_ne_true

theorem find?_nonpos_append {pre post : List F} {x : F} (hpre : ∀ y ∈ pre, le y (zero : F) = false)
    (hx : le x (zero : F) = true) :
    (pre ++ x :: post).find? (fun x => le x (zero : F)) = some x := by
  rw [List.find?_append, find?_nonpos_eq_none hpre, List.find?_cons, hx]; rfl

/-- The loop of `Geometric::extend` and `Harmonic::extend`: a state `mk a` around an arithmetic state
    is fed `t x` for each `x` up to the first `x ≤ 0`, which is reported. -/
theorem guarded_extend_fst {S : Type} (mk : Arith F → S) (t : F → F)
    (ext : S → List F → Outcome (Err W) S × S)
    (h0 : ∀ a, ext (mk a) [] = (.ok (mk a), mk a))
    (h1 : ∀ a x xs, ext (mk a) (x :: xs) =
      if le x (zero : F) then (.err (.nonPositiveValue (Widen.up x)), mk a)
      else ext (mk (a.append (t x))) xs)
    (a : Arith F) (xs : List F) :
    (ext (mk a) xs).1 = match xs.find? (fun x => le x (zero : F)) with
      | some x => .err (.nonPositiveValue (Widen.up x))
      | none => .ok (mk (a.extend (xs.map t))) := by
  induction xs generalizing a with
  | nil => rw [h0]; rfl
  | cons x xs ih =>
    rw [h1, List.find?_cons]
    cases hx : le x (zero : F)
    · simpa [Arith.extend_cons] using ih _
    · rfl

/-- such a loop over an accepted prefix: the prefix is fed to the arithmetic state. With
    `guarded_extend_fst` for the first component this also gives the state left behind at a rejected
    value. -/
theorem guarded_extend_append {S : Type} (mk : Arith F → S) (t : F → F)
    (ext : S → List F → Outcome (Err W) S × S)
    (h1 : ∀ a x xs, ext (mk a) (x :: xs) =
      if le x (zero : F) then (.err (.nonPositiveValue (Widen.up x)), mk a)
      else ext (mk (a.append (t x))) xs)
    (a : Arith F) (pre rest : List F) (hpre : ∀ y ∈ pre, le y (zero : F) = false) :
    ext (mk a) (pre ++ rest) = ext (mk (a.extend (pre.map t))) rest := by
  induction pre generalizing a with
  | nil => rfl
  | cons y pre ih =>
    rw [List.cons_append, h1, hpre y (List.mem_cons_self ..), if_neg Bool.false_ne_true,
      ih _ (fun z hz => hpre z (List.mem_cons_of_mem _ hz))]
    rfl

end guarded

namespace Geometric
variable {F W : Type} [Scalar F] [Widen F W]

theorem extend_cons (a : Arith F) (x : F) (xs : List F) :
    (extend ⟨a⟩ (x :: xs) : Outcome (Err W) (Geometric F) × Geometric F) =
      if le x (zero : F) then (.err (.nonPositiveValue (Widen.up x)), ⟨a⟩)
      else extend ⟨a.append (ln x)⟩ xs := by
  by_cases h : le x (zero : F) = true <;> simp [extend, append, h]

theorem fromList_eq (xs : List F) :
    (fromList xs : Outcome (Err W) (Geometric F)) =
      match xs.find? (fun x => le x (zero : F)) with
      | some x => .err (.nonPositiveValue (Widen.up x))
      | none => .ok ⟨Arith.fromList (xs.map ln)⟩ :=
  guarded_extend_fst Geometric.mk ln extend (fun _ => rfl) extend_cons Arith.empty xs

theorem extend_append (g : Geometric F) (pre rest : List F)
    (hpre : ∀ y ∈ pre, le y (zero : F) = false) :
    (extend g (pre ++ rest) : Outcome (Err W) (Geometric F) × Geometric F) =
      extend ⟨g.logs.extend (pre.map ln)⟩ rest :=
  guarded_extend_append Geometric.mk ln extend extend_cons g.logs pre rest hpre

variable [Scalar W]

theorem ci_eq (crit : Crit W) (conf : Confidence W) (xs : List F) :
    ci crit conf xs = match xs.find? (fun x => le x (zero : F)) with
      | some x => .err (.nonPositiveValue (Widen.up x))
      | none => ciMean crit ⟨Arith.fromList (xs.map ln)⟩ conf := by
  unfold ci; rw [fromList_eq]
  cases xs.find? (fun x => le x (zero : F)) <;> rfl

theorem ci_of_nonpos (crit : Crit W) (conf : Confidence W) (pre : List F) (x : F) (post : List F)
    (hpre : ∀ y ∈ pre, le y (zero : F) = false) (hx : le x (zero : F) = true) :
    ci crit conf (pre ++ x :: post) = .err (.nonPositiveValue (Widen.up x)) := by
  rw [ci_eq, find?_nonpos_append hpre hx]

end Geometric

namespace Harmonic
variable {F W : Type} [Scalar F] [Widen F W]

theorem extend_cons (a : Arith F) (x : F) (xs : List F) :
    (extend ⟨a⟩ (x :: xs) : Outcome (Err W) (Harmonic F) × Harmonic F) =
      if le x (zero : F) then (.err (.nonPositiveValue (Widen.up x)), ⟨a⟩)
      else extend ⟨a.append (div one x)⟩ xs := by
  by_cases h : le x (zero : F) = true <;> simp [extend, append, h]

theorem fromList_eq (xs : List F) :
    (fromList xs : Outcome (Err W) (Harmonic F)) =
      match xs.find? (fun x => le x (zero : F)) with
      | some x => .err (.nonPositiveValue (Widen.up x))
      | none => .ok ⟨Arith.fromList (xs.map fun x => div one x)⟩ :=
  guarded_extend_fst Harmonic.mk (fun x => div one x) extend (fun _ => rfl) extend_cons Arith.empty xs

theorem extend_append (h : Harmonic F) (pre rest : List F)
    (hpre : ∀ y ∈ pre, le y (zero : F) = false) :
    (extend h (pre ++ rest) : Outcome (Err W) (Harmonic F) × Harmonic F) =
      extend ⟨h.recip.extend (pre.map fun x => div one x)⟩ rest :=
  guarded_extend_append Harmonic.mk (fun x => div one x) extend extend_cons h.recip pre rest hpre

variable [Scalar W]

theorem ci_eq (crit : Crit W) (conf : Confidence W) (xs : List F) :
    ci crit conf xs = match xs.find? (fun x => le x (zero : F)) with
      | some x => .err (.nonPositiveValue (Widen.up x))
      | none => ciMean crit ⟨Arith.fromList (xs.map fun x => div one x)⟩ conf := by
  unfold ci; rw [fromList_eq]
  cases xs.find? (fun x => le x (zero : F)) <;> rfl

theorem ci_of_nonpos (crit : Crit W) (conf : Confidence W) (pre : List F) (x : F) (post : List F)
    (hpre : ∀ y ∈ pre, le y (zero : F) = false) (hx : le x (zero : F) = true) :
    ci crit conf (pre ++ x :: post) = .err (.nonPositiveValue (Widen.up x)) := by
  rw [ci_eq, find?_nonpos_append hpre hx]

theorem recipBound_of_pos (r : F) (h : gt r (zero : F) = true) : recipBound r = div one r := by
  simp only [recipBound, h, if_true]

theorem recipBound_of_not_pos (r : F) (h : gt r (zero : F) = false) : recipBound r = posInf := by
  simp only [recipBound, h, Bool.false_eq_true, if_false]

end Harmonic

/-! ## proportions -/

/-- the interval the proportion producers return: always two-sided, the end the kind does not have
    replaced by the far end `1` (upper one-sided) or `0` (lower one-sided) -/
def propShape {W α : Type} [NumOps α] (conf : Confidence W) (lo hi : α) : Interval α :=
  match conf with
  | .twoSided _ => .twoSided lo hi
  | .upper _ => .twoSided lo one
  | .lower _ => .twoSided zero hi

namespace Proportion

namespace Stats

theorem push_eq (s : Stats) (b : Bool) :
    s.push b = ⟨s.population + 1, s.successes + [b].count true⟩ := by
  cases b <;> rfl

theorem extend_eq (s : Stats) (bs : List Bool) :
    s.extend bs = ⟨s.population + bs.length, s.successes + bs.count true⟩ := by
  induction bs generalizing s with
  | nil => rfl
  | cons b bs ih =>
    show (s.push b).extend bs =
      ⟨s.population + ([b] ++ bs).length, s.successes + ([b] ++ bs).count true⟩
    rw [ih, push_eq, List.length_append, List.count_append, List.length_singleton,
      Nat.add_assoc, Nat.add_assoc]

theorem extendIf_eq_extend {T : Type} (s : Stats) (xs : List T) (p : T → Bool) :
    s.extendIf xs p = s.extend (xs.map p) := by
  unfold extendIf extend
  rw [List.foldl_map]

theorem extendIf_eq {T : Type} (s : Stats) (xs : List T) (p : T → Bool) :
    s.extendIf xs p = ⟨s.population + xs.length, s.successes + xs.countP p⟩ := by
  rw [extendIf_eq_extend, extend_eq, List.length_map, List.count_eq_countP, List.countP_map]
  congr 3
  funext x
  exact beq_true (p x)

end Stats

variable {W : Type} [Scalar W]

/-- the two ends `finish` hands to `Interval::new`, by kind -/
def finishEnds (conf : Confidence W) (m s : W) : W × W :=
  match conf with
  | .twoSided _ => (sub m s, add m s)
  | .upper _ => (sub m s, one)
  | .lower _ => (zero, add m s)

/-- the two ends `finishWilson` hands to `Interval::new`, by kind -/
def wilsonEnds (conf : Confidence W) (m s : W) : W × W :=
  match conf with
  | .twoSided _ => (fmax (sub m s) zero, fmin (add m s) one)
  | .upper _ => (fmin (fmax (sub m s) zero) one, one)
  | .lower _ => (zero, fmax (fmin (add m s) one) zero)

theorem finish_eq (conf : Confidence W) (m s : W) :
    finish conf m s = liftI (Interval.new (finishEnds conf m s).1 (finishEnds conf m s).2) := by
  cases conf <;> rfl

theorem finishWilson_eq (conf : Confidence W) (m s : W) :
    finishWilson conf m s = liftI (Interval.new (wilsonEnds conf m s).1 (wilsonEnds conf m s).2) := by
  cases conf <;> rfl

theorem wilsonEnds_spec (conf : Confidence W) (m s : W) :
    (conf.kind = .twoSided → (wilsonEnds conf m s).1 = fmax (sub m s) zero ∧
      (wilsonEnds conf m s).2 = fmin (add m s) one) ∧
    (conf.kind = .upper → (wilsonEnds conf m s).1 = fmin (fmax (sub m s) zero) one ∧
      (wilsonEnds conf m s).2 = one) ∧
    (conf.kind = .lower → (wilsonEnds conf m s).1 = zero ∧
      (wilsonEnds conf m s).2 = fmax (fmin (add m s) one) zero) := by
  cases conf
  · exact ⟨fun _ => ⟨rfl, rfl⟩, nofun, nofun⟩
  · exact ⟨nofun, fun _ => ⟨rfl, rfl⟩, nofun⟩
  · exact ⟨nofun, nofun, fun _ => ⟨rfl, rfl⟩⟩

theorem ciWilson_eq (crit : Crit W) (conf : Confidence W) (n k : Nat) :
    ciWilson crit conf n k =
      if n < k then .err (.invalidSuccesses k n)
      else if k < 2 then .err (.tooFewSuccesses k n (Scalar.ofNat k))
      else if n - k < 2 then
        .err (.tooFewFailures (n - k) n (sub (Scalar.ofNat n) (Scalar.ofNat k)))
      else if probOk conf.quantile then
        finishWilson conf (wilsonCentre (Scalar.ofNat n) (Scalar.ofNat k) (crit (.z conf.quantile)))
          (wilsonSpan (Scalar.ofNat n) (Scalar.ofNat k) (crit (.z conf.quantile)))
      else .panic "inverse_cdf" := by
  unfold ciWilson
  simp only [zValue_bind, gt_iff_lt]

theorem ciWilson_eq_ok_iff {crit : Crit W} {conf : Confidence W} {n k : Nat} {i : Interval W} :
    ciWilson crit conf n k = .ok i ↔
      k ≤ n ∧ 2 ≤ k ∧ 2 ≤ n - k ∧ probOk conf.quantile = true ∧
      finishWilson conf (wilsonCentre (Scalar.ofNat n) (Scalar.ofNat k) (crit (.z conf.quantile)))
        (wilsonSpan (Scalar.ofNat n) (Scalar.ofNat k) (crit (.z conf.quantile))) = .ok i := by
  simp only [ciWilson_eq, Outcome.ite_err_eq_ok_iff, Outcome.ite_panic_eq_ok_iff, Nat.not_lt]

theorem ciWilson_dom (crit : Crit W) (conf : Confidence W) (n k : Nat) (hk : 2 ≤ k)
    (hkn : k + 2 ≤ n) :
    ciWilson crit conf n k =
      if probOk conf.quantile then
        finishWilson conf (wilsonCentre (Scalar.ofNat n) (Scalar.ofNat k) (crit (.z conf.quantile)))
          (wilsonSpan (Scalar.ofNat n) (Scalar.ofNat k) (crit (.z conf.quantile)))
      else .panic "inverse_cdf" := by
  rw [ciWilson_eq, if_neg (by omega), if_neg (by omega), if_neg (by omega)]

theorem ciWilson_eq_err_iff {crit : Crit W} {conf : Confidence W} {n k : Nat} {e : Err W} :
    ciWilson crit conf n k = .err e ↔
      (n < k ∧ e = .invalidSuccesses k n) ∨
      (k ≤ n ∧ k < 2 ∧ e = .tooFewSuccesses k n (Scalar.ofNat k)) ∨
      (k ≤ n ∧ 2 ≤ k ∧ n - k < 2 ∧
        e = .tooFewFailures (n - k) n (sub (Scalar.ofNat n) (Scalar.ofNat k))) ∨
      (k ≤ n ∧ 2 ≤ k ∧ 2 ≤ n - k ∧ probOk conf.quantile = true ∧
        finishWilson conf (wilsonCentre (Scalar.ofNat n) (Scalar.ofNat k) (crit (.z conf.quantile)))
          (wilsonSpan (Scalar.ofNat n) (Scalar.ofNat k) (crit (.z conf.quantile))) = .err e) := by
  simp only [ciWilson_eq, Outcome.ite_err_eq_err_iff, Outcome.ite_panic_eq_err_iff, Nat.not_lt,
    and_or_left]

theorem ciWilson_eq_invalidBounds {crit : Crit W} {conf : Confidence W} {n k : Nat}
    (h : ciWilson crit conf n k = .err (.interval .invalidBounds)) :
    k ≤ n ∧ 2 ≤ k ∧ 2 ≤ n - k ∧ probOk conf.quantile = true ∧
    gt (wilsonEnds conf (wilsonCentre (Scalar.ofNat n) (Scalar.ofNat k) (crit (.z conf.quantile)))
        (wilsonSpan (Scalar.ofNat n) (Scalar.ofNat k) (crit (.z conf.quantile)))).1
      (wilsonEnds conf (wilsonCentre (Scalar.ofNat n) (Scalar.ofNat k) (crit (.z conf.quantile)))
        (wilsonSpan (Scalar.ofNat n) (Scalar.ofNat k) (crit (.z conf.quantile)))).2 = true := by
  simpa only [ciWilson_eq_err_iff, reduceCtorEq, and_false, false_or, finishWilson_eq,
    liftI_new_eq_err_iff, and_true] using h

theorem ciWilson_isPanic_iff (crit : Crit W) (conf : Confidence W) (n k : Nat) :
    (ciWilson crit conf n k).isPanic = true ↔
      k ≤ n ∧ 2 ≤ k ∧ 2 ≤ n - k ∧ probOk conf.quantile = false := by
  simp only [ciWilson_eq, Outcome.isPanic_ite_err_iff, Outcome.isPanic_ite_panic_iff, finishWilson_eq,
    liftI_isPanic, Bool.false_eq_true, or_false, Nat.not_lt, Bool.not_eq_true]

theorem ciWilson_isPanic (crit : Crit W) (conf : Confidence W) (n k : Nat)
    (hq : probOk conf.quantile = true) : (ciWilson crit conf n k).isPanic = false := by
  rw [Bool.eq_false_iff, Ne, ciWilson_isPanic_iff, hq]
  exact fun h => nomatch h.2.2.2

/-- the Wald statistics: `p = k/n`, `q = 1 − p`, `sd = sqrt(p·q/n)` in the crate's operation order -/
def waldP (n k : Nat) : W := div (Scalar.ofNat k) (Scalar.ofNat n)
def waldQ (n k : Nat) : W := sub one (waldP n k)
def waldSd (n k : Nat) : W := sqrt (div (mul (waldP n k) (waldQ n k)) (Scalar.ofNat n))

theorem ciZNormal_eq (crit : Crit W) (conf : Confidence W) (n k : Nat) :
    ciZNormal crit conf n k =
      if n < k then .err (.invalidSuccesses k n)
      else if k < 10 then .err (.tooFewSuccesses k n (mul (Scalar.ofNat n) (waldP n k)))
      else if n - k < 10 then .err (.tooFewFailures (n - k) n (mul (Scalar.ofNat n) (waldQ n k)))
      else if probOk conf.quantile then
        finish conf (waldP n k) (mul (crit (.z conf.quantile)) (waldSd n k))
      else .panic "inverse_cdf" := by
  unfold ciZNormal waldSd waldQ waldP
  simp only [zValue_bind, gt_iff_lt]

theorem ciZNormal_eq_ok_iff {crit : Crit W} {conf : Confidence W} {n k : Nat} {i : Interval W} :
    ciZNormal crit conf n k = .ok i ↔
      k ≤ n ∧ 10 ≤ k ∧ 10 ≤ n - k ∧ probOk conf.quantile = true ∧
      finish conf (waldP n k) (mul (crit (.z conf.quantile)) (waldSd n k)) = .ok i := by
  simp only [ciZNormal_eq, Outcome.ite_err_eq_ok_iff, Outcome.ite_panic_eq_ok_iff, Nat.not_lt]

theorem ciWilsonRatio_eq (crit : Crit W) (conf : Confidence W) (n : Nat) (rate : W) :
    ciWilsonRatio crit conf n rate =
      if le rate (zero : W) then .err (.nonPositiveValue rate)
      else ciWilson crit conf n (roundToNat (mul rate (Scalar.ofNat n))) := rfl

end Proportion

section shapes
variable {W : Type}

theorem Proportion.finish_eq_err [Scalar W] {conf : Confidence W} {m s : W} {e : Err W}
    (h : Proportion.finish conf m s = .err e) : e = .interval .invalidBounds := by
  rw [Proportion.finish_eq, liftI_new_eq_err_iff] at h
  exact h.2

end shapes

end StatsCI

/-! ## quantiles -/

namespace StatsCI.Quantile
open StatsCI NumOps Scalar
variable {W : Type} [Scalar W]

theorem index_eq_ok_iff {n : Nat} {p : W} {i : Nat} :
    index n p = .ok i ↔
      n ≠ 0 ∧ (lt p (zero : W) || lt (one : W) p) = false ∧
        min (floorToNat (mul p (Scalar.ofNat n))) (n - 1) = i := by
  unfold index
  simp only [Outcome.ite_err_eq_ok_iff, Outcome.ok.injEq, Bool.not_eq_true, ne_eq]

theorem index_lt_of_ok {n : Nat} {p : W} {i : Nat} (h : index n p = .ok i) : i < n := by
  obtain ⟨hn, -, rfl⟩ := index_eq_ok_iff.mp h
  exact Nat.lt_of_le_of_lt (Nat.min_le_right _ _) (Nat.sub_lt (Nat.pos_of_ne_zero hn) Nat.one_pos)

@[simp] theorem index_isPanic (n : Nat) (p : W) : (index n p).isPanic = false :=
  Outcome.isPanic_ite_err (Outcome.isPanic_ite_err rfl)

/-- the tail of `ci_indices` on the interval `ci_wilson` returned: the two `IndexError` tests,
    `Stats::index` on both ends, the constructor of the kind -/
def ranksOf (conf : Confidence W) (n : Nat) (pci : Interval W) : Outcome (Err W) (Interval Nat) :=
  let ext : Extremes W := ⟨negInf, posInf⟩
  let lh := @Interval.toPair W ext pci
  if lt lh.1 (zero : W) then .err (.indexError lh.1 n) else
  if gt lh.2 (one : W) then .err (.indexError lh.2 n) else
  (index n lh.1).bind fun lo =>
  (index n lh.2).bind fun hi =>
  match conf with
  | .twoSided _ =>
      if lo > hi then .err (.interval .invalidBounds) else .ok (.twoSided lo hi)
  | .upper _ => .ok (.upper lo)
  | .lower _ => .ok (.lower hi)

theorem ranksOf_eq_ok_iff {conf : Confidence W} {n : Nat} {pci : Interval W} {idx : Interval Nat} :
    ranksOf conf n pci = .ok idx ↔
      lt (@Interval.toPair W ⟨negInf, posInf⟩ pci).1 (zero : W) = false ∧
      gt (@Interval.toPair W ⟨negInf, posInf⟩ pci).2 (one : W) = false ∧
      ∃ lo, index n (@Interval.toPair W ⟨negInf, posInf⟩ pci).1 = .ok lo ∧
      ∃ hi, index n (@Interval.toPair W ⟨negInf, posInf⟩ pci).2 = .ok hi ∧
      (conf.isTwoSided = true → lo ≤ hi) ∧ shapeOf conf lo hi = idx := by
  simp only [ranksOf, Outcome.ite_err_eq_ok_iff, Outcome.bind_eq_ok_iff, Bool.not_eq_true]
  refine and_congr_right fun _ => and_congr_right fun _ => exists_congr fun lo =>
    and_congr_right fun _ => exists_congr fun hi => and_congr_right fun _ => ?_
  cases conf <;> simp only [shapeOf, Confidence.isTwoSided, Outcome.ok.injEq, Bool.false_eq_true,
    false_imp_iff, true_and, forall_const, Outcome.ite_err_eq_ok_iff, Nat.not_lt]

theorem ranksOf_isPanic (conf : Confidence W) (n : Nat) (pci : Interval W) :
    (ranksOf conf n pci).isPanic = false := by
  refine Outcome.isPanic_ite_err (Outcome.isPanic_ite_err
    (Outcome.isPanic_bind (index_isPanic _ _) fun lo _ =>
      Outcome.isPanic_bind (index_isPanic _ _) fun hi _ => ?_))
  cases conf
  · exact Outcome.isPanic_ite_err rfl
  · rfl
  · rfl

theorem ciIndices_eq_bind (crit : Crit W) (conf : Confidence W) (n : Nat) (q : W) :
    ciIndices crit conf n q =
      if (gt q (zero : W) && lt q (one : W)) = true then
        if n < 4 then .err (.tooFewSamples n)
        else (Proportion.ciWilson crit conf n (roundToNat (mul q (Scalar.ofNat n)))).bind
          (ranksOf conf n)
      else .err (.invalidQuantile q) := by
  unfold ciIndices
  cases (gt q (zero : W) && lt q (one : W)) <;> rfl

theorem ciIndices_eq_ok_iff {crit : Crit W} {conf : Confidence W} {n : Nat} {q : W}
    {idx : Interval Nat} :
    ciIndices crit conf n q = .ok idx ↔
      (gt q (zero : W) && lt q (one : W)) = true ∧ 4 ≤ n ∧
      ∃ pci, Proportion.ciWilson crit conf n (roundToNat (mul q (Scalar.ofNat n))) = .ok pci ∧
        lt (@Interval.toPair W ⟨negInf, posInf⟩ pci).1 (zero : W) = false ∧
        gt (@Interval.toPair W ⟨negInf, posInf⟩ pci).2 (one : W) = false ∧
        ∃ lo, index n (@Interval.toPair W ⟨negInf, posInf⟩ pci).1 = .ok lo ∧
        ∃ hi, index n (@Interval.toPair W ⟨negInf, posInf⟩ pci).2 = .ok hi ∧
        (conf.isTwoSided = true → lo ≤ hi) ∧ shapeOf conf lo hi = idx := by
  simp only [ciIndices_eq_bind, Outcome.ite_else_err_eq_ok_iff, Outcome.ite_err_eq_ok_iff,
    Outcome.bind_eq_ok_iff, ranksOf_eq_ok_iff, Nat.not_lt]

/-- what an `Ok` index interval looks like: kind of the confidence, ordered, inside `0..n−1` -/
def IdxOk (conf : Confidence W) (idx : Interval Nat) (n : Nat) : Prop :=
  match conf, idx with
  | .twoSided _, .twoSided lo hi => lo ≤ hi ∧ hi ≤ n - 1
  | .upper _, .upper lo => lo ≤ n - 1
  | .lower _, .lower hi => hi ≤ n - 1
  | _, _ => False

theorem ciIndices_eq_ok {crit : Crit W} {conf : Confidence W} {n : Nat} {q : W} {idx : Interval Nat}
    (h : ciIndices crit conf n q = .ok idx) :
    (gt q (zero : W) && lt q (one : W)) = true ∧ 4 ≤ n ∧ IdxOk conf idx n := by
  obtain ⟨hq, hn, _, _, _, _, lo, hlo, hi, hhi, hle, rfl⟩ := ciIndices_eq_ok_iff.mp h
  have h1 : lo ≤ n - 1 := Nat.le_sub_one_of_lt (index_lt_of_ok hlo)
  have h2 : hi ≤ n - 1 := Nat.le_sub_one_of_lt (index_lt_of_ok hhi)
  refine ⟨hq, hn, ?_⟩
  cases conf
  · exact ⟨hle rfl, h2⟩
  · exact h1
  · exact h2

theorem ciIndices_of_bad_q (crit : Crit W) (conf : Confidence W) (n : Nat) {q : W}
    (h : (gt q (zero : W) && lt q (one : W)) = false) :
    ciIndices crit conf n q = .err (.invalidQuantile q) := by
  rw [ciIndices_eq_bind, if_neg (Bool.eq_false_iff.mp h)]

theorem ciIndices_of_wilson_err (crit : Crit W) (conf : Confidence W) {n : Nat} {q : W}
    (hq : (gt q (zero : W) && lt q (one : W)) = true) (hn : 4 ≤ n) {e : Err W}
    (hW : Proportion.ciWilson crit conf n (roundToNat (mul q (Scalar.ofNat n))) = .err e) :
    ciIndices crit conf n q = .err e := by
  rw [ciIndices_eq_bind, if_pos hq, if_neg (Nat.not_lt.mpr hn), hW]
  rfl

theorem ciIndices_isPanic (crit : Crit W) (conf : Confidence W) (n : Nat) (q : W)
    (hq : probOk conf.quantile = true) : (ciIndices crit conf n q).isPanic = false := by
  rw [ciIndices_eq_bind]
  split
  · exact Outcome.isPanic_ite_err (Outcome.isPanic_bind (Proportion.ciWilson_isPanic _ _ _ _ hq)
      fun pci _ => ranksOf_isPanic conf n pci)
  · rfl

omit [Scalar W] in
theorem nth_of_lt {T : Type} (xs : List T) {i : Nat} (h : i < xs.length) :
    (nth xs i : Outcome (Err W) T) = .ok xs[i] := by
  simp [nth, List.getElem?_eq_getElem h]

omit [Scalar W] in
theorem bound_of_some {T : Type} [Cmp T] {xs : List T} {i : Nat} {x : T} (h : xs[i]? = some x) :
    (bound xs i : Outcome (Err W) T) = if le x x then .ok x else .err .invalidInputData := by
  simp [bound, nth, h]

omit [Scalar W] in
theorem bound_of_lt {T : Type} [Cmp T] (xs : List T) {i : Nat} (h : i < xs.length) :
    (bound xs i : Outcome (Err W) T) =
      if le xs[i] xs[i] then .ok xs[i] else .err .invalidInputData :=
  bound_of_some (List.getElem?_eq_getElem h)

omit [Scalar W] in
theorem bound_eq_ok_iff {T : Type} [Cmp T] {xs : List T} {i : Nat} {x : T} :
    (bound xs i : Outcome (Err W) T) = .ok x ↔ xs[i]? = some x ∧ le x x = true := by
  cases h : xs[i]? with
  | none => simp [bound, nth, h]
  | some y =>
    rw [bound_of_some h, Outcome.ite_else_err_eq_ok_iff, Outcome.ok.injEq, Option.some.injEq]
    exact ⟨fun k => ⟨k.2, k.2 ▸ k.1⟩, fun k => ⟨k.1 ▸ k.2, k.1⟩⟩

omit [Scalar W] in
theorem bound_eq_err_iff {T : Type} [Cmp T] {xs : List T} {i : Nat} {e : Err W} :
    (bound xs i : Outcome (Err W) T) = .err e ↔
      e = .invalidInputData ∧ ∃ x, xs[i]? = some x ∧ le x x = false := by
  cases h : xs[i]? with
  | none => simp [bound, nth, h]
  | some y =>
    rw [bound_of_some h, Outcome.ite_else_err_eq_err_iff]
    simp only [reduceCtorEq, false_and, false_or, Bool.not_eq_true, Option.some.injEq,
      exists_eq_left', and_comm]

omit [Scalar W] in
theorem bound_isPanic_of_lt {T : Type} [Cmp T] (xs : List T) {i : Nat} (h : i < xs.length) :
    (bound xs i : Outcome (Err W) T).isPanic = false := by
  rw [bound_of_lt xs h]; split <;> rfl

/-- what `ci_sorted_unchecked` does with the ranks it is given: look them up through `bound`, then
    build the interval -/
def pick {T : Type} [Cmp T] (sorted : List T) (idx : Interval Nat) : Outcome (Err W) (Interval T) :=
  match idx with
  | .twoSided lo hi =>
      (bound sorted lo).bind fun a => (bound sorted hi).bind fun b => liftI (Interval.new a b)
  | .upper lo => (bound sorted lo).bind fun a => .ok (.upper a)
  | .lower hi => (bound sorted hi).bind fun b => .ok (.lower b)

/-- the shape of an `Ok` result: elements of the slice at the computed positions, each comparable
    with itself (on floats: not a NaN), and `¬ a > b` when there are two -/
def PickOk {T : Type} [Cmp T] (sorted : List T) (idx : Interval Nat) (i : Interval T) : Prop :=
  match idx, i with
  | .twoSided lo hi, .twoSided a b =>
      sorted[lo]? = some a ∧ sorted[hi]? = some b ∧ gt a b = false ∧ le a a = true ∧ le b b = true
  | .upper lo, .upper a => sorted[lo]? = some a ∧ le a a = true
  | .lower hi, .lower b => sorted[hi]? = some b ∧ le b b = true
  | _, _ => False

/-- every bound is comparable with itself (on floats: no bound is a NaN) -/
def SelfCmp {T : Type} [Cmp T] : Interval T → Prop
  | .twoSided a b => le a a = true ∧ le b b = true
  | .upper a => le a a = true
  | .lower b => le b b = true

def Selects (idx : Interval Nat) (r : Nat) : Prop :=
  match idx with
  | .twoSided lo hi => r = lo ∨ r = hi
  | .upper lo => r = lo
  | .lower hi => r = hi

omit [Scalar W] in
theorem PickOk.selfCmp {T : Type} [Cmp T] {sorted : List T} {idx : Interval Nat} {i : Interval T}
    (h : PickOk sorted idx i) : SelfCmp i := by
  cases idx <;> cases i <;> simp only [PickOk, SelfCmp] at h ⊢
  · exact h.2.2.2
  · exact h.2
  · exact h.2

omit [Scalar W] in
theorem IdxOk.selects_lt {conf : Confidence W} {idx : Interval Nat} {n r : Nat}
    (hok : IdxOk conf idx n) (hn : 0 < n) (hr : Selects idx r) : r < n := by
  cases conf <;> cases idx <;> simp only [IdxOk, Selects] at hok hr <;> omega

omit [Scalar W] in
theorem pick_eq_ok {T : Type} [Cmp T] {sorted : List T} {idx : Interval Nat} {i : Interval T}
    (h : (pick sorted idx : Outcome (Err W) (Interval T)) = .ok i) : PickOk sorted idx i := by
  cases idx <;> simp only [pick, Outcome.bind_eq_ok_iff, bound_eq_ok_iff, liftI_new_eq_ok_iff,
    Outcome.ok.injEq] at h
  · obtain ⟨a, ⟨ha, haa⟩, b, ⟨hb, hbb⟩, hg, rfl⟩ := h
    exact ⟨ha, hb, hg, haa, hbb⟩
  · obtain ⟨a, ha, rfl⟩ := h
    exact ha
  · obtain ⟨b, hb, rfl⟩ := h
    exact hb

omit [Scalar W] in
theorem pick_eq_err {T : Type} [Cmp T] {sorted : List T} {idx : Interval Nat} {e : Err W}
    (h : (pick sorted idx : Outcome (Err W) (Interval T)) = .err e) :
    (e = .invalidInputData ∧ ∃ r x, Selects idx r ∧ sorted[r]? = some x ∧ le x x = false) ∨
    (e = .interval .invalidBounds ∧ ∃ lo hi a b, idx = .twoSided lo hi ∧
      sorted[lo]? = some a ∧ sorted[hi]? = some b ∧ gt a b = true) := by
  cases idx <;> simp only [pick, Outcome.bind_eq_err_iff, bound_eq_err_iff, bound_eq_ok_iff,
    liftI_new_eq_err_iff, reduceCtorEq, and_false, exists_false, or_false] at h
  · rename_i lo hi
    rcases h with ⟨rfl, x, hx, hxx⟩ | ⟨a, ⟨ha, _⟩, ⟨rfl, x, hx, hxx⟩ | ⟨b, ⟨hb, _⟩, hg, rfl⟩⟩
    · exact Or.inl ⟨rfl, lo, x, Or.inl rfl, hx, hxx⟩
    · exact Or.inl ⟨rfl, hi, x, Or.inr rfl, hx, hxx⟩
    · exact Or.inr ⟨rfl, lo, hi, a, b, rfl, ha, hb, hg⟩
  · obtain ⟨rfl, x, hx, hxx⟩ := h
    exact Or.inl ⟨rfl, _, x, rfl, hx, hxx⟩
  · obtain ⟨rfl, x, hx, hxx⟩ := h
    exact Or.inl ⟨rfl, _, x, rfl, hx, hxx⟩

omit [Scalar W] in
theorem pick_of_incomparable {T : Type} [Cmp T] {sorted : List T} {idx : Interval Nat} {r : Nat}
    {x : T} (hin : ∀ r, Selects idx r → r < sorted.length) (hr : Selects idx r)
    (hx : sorted[r]? = some x) (hxx : le x x = false) :
    (pick sorted idx : Outcome (Err W) (Interval T)) = .err .invalidInputData := by
  have he : (bound sorted r : Outcome (Err W) T) = .err .invalidInputData :=
    bound_eq_err_iff.mpr ⟨rfl, x, hx, hxx⟩
  cases idx <;> simp only [Selects] at hr hin <;> simp only [pick]
  · rename_i lo hi
    rcases hr with rfl | rfl
    · rw [he]; rfl
    · rw [bound_of_lt sorted (hin lo (Or.inl rfl))]
      split
      · rw [Outcome.bind_ok, he]; rfl
      · rfl
  · subst hr; rw [he]; rfl
  · subst hr; rw [he]; rfl

omit [Scalar W] in
theorem pick_isPanic {T : Type} [Cmp T] {sorted : List T} {idx : Interval Nat}
    (h : ∀ r, Selects idx r → r < sorted.length) :
    (pick sorted idx : Outcome (Err W) (Interval T)).isPanic = false := by
  cases idx
  · exact Outcome.isPanic_bind (bound_isPanic_of_lt sorted (h _ (Or.inl rfl))) fun a _ =>
      Outcome.isPanic_bind (bound_isPanic_of_lt sorted (h _ (Or.inr rfl))) fun b _ =>
        liftI_isPanic _
  · exact Outcome.isPanic_bind (bound_isPanic_of_lt sorted (h _ rfl)) fun a _ => rfl
  · exact Outcome.isPanic_bind (bound_isPanic_of_lt sorted (h _ rfl)) fun b _ => rfl

theorem ciSortedUnchecked_eq {T : Type} [Cmp T] (crit : Crit W) (conf : Confidence W)
    (sorted : List T) (q : W) :
    ciSortedUnchecked crit conf sorted q =
      if (gt q (zero : W) && lt q (one : W)) = true then
        (ciIndices crit conf sorted.length q).bind (pick sorted)
      else .err (.invalidQuantile q) := by
  unfold ciSortedUnchecked
  cases (gt q (zero : W) && lt q (one : W)) <;> rfl

theorem ciSortedUnchecked_eq_ok {T : Type} [Cmp T] {crit : Crit W} {conf : Confidence W}
    {sorted : List T} {q : W} {i : Interval T} (h : ciSortedUnchecked crit conf sorted q = .ok i) :
    ∃ idx, ciIndices crit conf sorted.length q = .ok idx ∧ PickOk sorted idx i := by
  rw [ciSortedUnchecked_eq] at h; split at h
  · obtain ⟨idx, hidx, h⟩ := Outcome.bind_eq_ok_iff.mp h
    exact ⟨idx, hidx, pick_eq_ok h⟩
  · cases h

theorem ciSortedUnchecked_ok_selfCmp {T : Type} [Cmp T] {crit : Crit W} {conf : Confidence W}
    {sorted : List T} {q : W} {i : Interval T} (h : ciSortedUnchecked crit conf sorted q = .ok i) :
    SelfCmp i := by
  obtain ⟨_, _, hp⟩ := ciSortedUnchecked_eq_ok h
  exact hp.selfCmp

theorem ciSortedUnchecked_of_bad_q {T : Type} [Cmp T] (crit : Crit W) (conf : Confidence W)
    (sorted : List T) {q : W} (h : (gt q (zero : W) && lt q (one : W)) = false) :
    ciSortedUnchecked crit conf sorted q = .err (.invalidQuantile q) := by
  rw [ciSortedUnchecked_eq, if_neg (Bool.eq_false_iff.mp h)]

theorem ciSortedUnchecked_of_incomparable {T : Type} [Cmp T] {crit : Crit W} {conf : Confidence W}
    {sorted : List T} {q : W} {idx : Interval Nat} {r : Nat} {x : T}
    (hidx : ciIndices crit conf sorted.length q = .ok idx) (hr : Selects idx r)
    (hx : sorted[r]? = some x) (hxx : le x x = false) :
    ciSortedUnchecked crit conf sorted q = .err .invalidInputData := by
  obtain ⟨hq, hn, hok⟩ := ciIndices_eq_ok hidx
  rw [ciSortedUnchecked_eq, if_pos hq, hidx, Outcome.bind_ok]
  exact pick_of_incomparable (fun r hr => hok.selects_lt (by omega) hr) hr hx hxx

/-- element access never leaves the slice: the indices come out of `index`, which clamps at
    `n − 1`, and `n ≥ 4` -/
theorem ciSortedUnchecked_isPanic {T : Type} [Cmp T] (crit : Crit W) (conf : Confidence W)
    (sorted : List T) (q : W) (hq : probOk conf.quantile = true) :
    (ciSortedUnchecked crit conf sorted q).isPanic = false := by
  rw [ciSortedUnchecked_eq]; split
  · refine Outcome.isPanic_bind (ciIndices_isPanic _ _ _ _ hq) fun idx hidx => ?_
    obtain ⟨_, hn, hok⟩ := ciIndices_eq_ok hidx
    exact pick_isPanic fun r hr => hok.selects_lt (by omega) hr
  · rfl

omit [Scalar W] in
theorem sortData_eq_ok {T : Type} [Cmp T] {xs ys : List T}
    (h : (sortData xs : Outcome (Err W) (List T)) = .ok ys) :
    ys = xs.mergeSort (fun a b => le a b) ∧ ys.length = xs.length := by
  unfold sortData at h
  split at h
  · cases h
  · cases h; exact ⟨rfl, List.length_mergeSort _⟩

omit [Scalar W] in
theorem sortData_ne_err {T : Type} [Cmp T] (xs : List T) (e : Err W) :
    (sortData xs : Outcome (Err W) (List T)) ≠ .err e := by
  unfold sortData; split <;> simp

omit [Scalar W] in
theorem sortData_isPanic_iff {T : Type} [Cmp T] (xs : List T) :
    (sortData xs : Outcome (Err W) (List T)).isPanic = true ↔
      2 ≤ xs.length ∧ ∃ x ∈ xs, le x x = false := by
  unfold sortData
  simp only [Bool.and_eq_true, decide_eq_true_eq, List.any_eq_true, Bool.not_eq_true', ge_iff_le]
  split <;> rename_i h
  · exact ⟨fun _ => h, fun _ => rfl⟩
  · exact ⟨nofun, fun k => absurd k h⟩

end StatsCI.Quantile
