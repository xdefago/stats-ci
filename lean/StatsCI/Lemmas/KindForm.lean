/-
  StatsCI.Lemmas.KindForm — the form the mean-type producers share, on every carrier: bounds computed
  from `conf.quantile` alone (`tailBounds`), a guard only the two-sided kind consults, then the
  constructor of the kind. `KindForm` says that of a producer; "the result has the kind asked for" and
  "one-sided at `L` is one end of two-sided at `2L − 1`, and conversely" follow for all of them at
  once, and `finish`, `Geometric.ciMean`, `Harmonic.ciMean` are instances.
-/
import StatsCI.Lemmas.EntryPoints

namespace StatsCI.Coherence
open StatsCI NumOps Scalar MeanLemmas

section kinds
variable {W α : Type}

/-- the constructor of an interval is the one of the kind of the confidence -/
def KindMatch (conf : Confidence W) (I : Interval α) : Prop :=
  match conf with
  | .twoSided _ => ∃ lo hi, I = .twoSided lo hi
  | .upper _ => ∃ lo, I = .upper lo
  | .lower _ => ∃ hi, I = .lower hi

theorem kindMatch_shapeOf (conf : Confidence W) (lo hi : α) : KindMatch conf (shapeOf conf lo hi) := by
  cases conf
  · exact ⟨lo, hi, rfl⟩
  · exact ⟨lo, rfl⟩
  · exact ⟨hi, rfl⟩

/-- the proportion producers always return a two-sided interval, the far end being exactly `1`
    (upper one-sided) or `0` (lower one-sided) -/
def PropKindMatch [NumOps α] (conf : Confidence W) (I : Interval α) : Prop :=
  match conf with
  | .twoSided _ => ∃ lo hi, I = .twoSided lo hi
  | .upper _ => ∃ lo, I = .twoSided lo (one : α)
  | .lower _ => ∃ hi, I = .twoSided (zero : α) hi

/-- from the forward direction and the kind of the two-sided result: the one-sided results
    determine a successful two-sided result -/
theorem converse_of_forward {ε α : Type} {two up low : Outcome ε (Interval α)}
    (U L : α → Interval α) (hU : ∀ x y, U x = U y → x = y) (hL : ∀ x y, L x = L y → x = y)
    (hfw : ∀ lo hi, two = .ok (.twoSided lo hi) → up = .ok (U lo) ∧ low = .ok (L hi))
    (hkind : ∀ I, two = .ok I → ∃ lo hi, I = .twoSided lo hi)
    (lo hi : α) (hu : up = .ok (U lo)) (hl : low = .ok (L hi)) (I : Interval α)
    (h2 : two = .ok I) : I = .twoSided lo hi := by
  obtain ⟨x, y, rfl⟩ := hkind I h2
  obtain ⟨h1, h2'⟩ := hfw x y h2
  rw [hU _ _ (Outcome.ok.inj (hu.symm.trans h1)), hL _ _ (Outcome.ok.inj (hl.symm.trans h2'))]

end kinds

section generic
variable {F W : Type} [Scalar F] [Scalar W] [Widen F W]

/-- the pair of bounds the common tail computes when the probability `q` is asked for
    (`(Confidence.upper q).quantile` is `q` by definition) -/
def tailBounds (crit : Crit W) (q : W) (P : Outcome (Err W) (Arith.Prep W)) :
    Outcome (Err W) (F × F) :=
  P.bind fun p => (critValue crit (.upper q) p.dof).map fun c => (Prep.lo c p, Prep.hi c p)

/-- the tail reads the confidence twice: through `quantile` for the bounds, through the kind for
    the constructor -/
theorem finish_eq_tailBounds (crit : Crit W) (conf : Confidence W)
    (P : Outcome (Err W) (Arith.Prep W)) :
    (finish crit conf P : Outcome (Err W) (Interval F)) =
      (tailBounds crit conf.quantile P).bind fun b => intervalOfKind conf b.1 b.2 := by
  cases P with
  | ok p =>
    rw [finish_ok, tailBounds, Outcome.bind_ok, Outcome.bind_map,
      critValue_congr crit (c₁ := conf) (c₂ := .upper conf.quantile) rfl]
  | err e => rfl
  | panic t => rfl

/-- **The form of the five mean-type producers.** Bounds `b` computed from the probability asked
    for alone; a guard that only the two-sided kind consults; then the constructor of the kind on
    `lo b`, `hi b`. Arithmetic, paired and unpaired have no guard; geometric and harmonic build a
    first interval of the kind on `b` (the guard) and map its ends. -/
def KindForm {β α : Type} [Cmp α] (P : Confidence W → Outcome (Err W) (Interval α))
    (B : W → Outcome (Err W) β) (bad : β → Bool) (lo hi : β → α) : Prop :=
  ∀ conf, P conf = (B conf.quantile).bind fun b =>
    if conf.isTwoSided && bad b then .err (.interval .invalidBounds)
    else intervalOfKind conf (lo b) (hi b)

section kindform
variable {β α : Type} [Cmp α] {P : Confidence W → Outcome (Err W) (Interval α)}
  {B : W → Outcome (Err W) β} {bad : β → Bool} {lo hi : β → α}

theorem KindForm.eq_ok_iff (h : KindForm P B bad lo hi) {conf : Confidence W} {I : Interval α} :
    P conf = .ok I ↔ ∃ b, B conf.quantile = .ok b ∧ I = shapeOf conf (lo b) (hi b) ∧
      (conf.isTwoSided = true → bad b = false ∧ gt (lo b) (hi b) = false) := by
  rw [h conf, Outcome.bind_eq_ok_iff]
  refine exists_congr fun b => and_congr_right fun _ => ?_
  rw [Outcome.ite_err_eq_ok_iff, intervalOfKind_eq_ok_iff, Bool.and_eq_true, not_and,
    Bool.not_eq_true]
  exact ⟨fun k => ⟨k.2.1, fun t => ⟨k.1 t, k.2.2 t⟩⟩,
    fun k => ⟨fun t => (k.2 t).1, k.1, fun t => (k.2 t).2⟩⟩

theorem KindForm.kind (h : KindForm P B bad lo hi) (conf : Confidence W) (I : Interval α)
    (hI : P conf = .ok I) : KindMatch conf I := by
  obtain ⟨b, _, rfl, _⟩ := h.eq_ok_iff.mp hI
  exact kindMatch_shapeOf _ _ _

/-- one-sided at `l` versus two-sided at `l₂` whenever both ask for the same probability: a
    successful two-sided call hands its bounds to the one-sided calls, which succeed -/
theorem KindForm.one_vs_two (h : KindForm P B bad lo hi) (l l₂ : W)
    (hq : l = (Confidence.twoSided l₂).quantile) (x y : α)
    (h2 : P (.twoSided l₂) = .ok (.twoSided x y)) :
    P (.upper l) = .ok (.upper x) ∧ P (.lower l) = .ok (.lower y) := by
  obtain ⟨b, hb, hI, _⟩ := h.eq_ok_iff.mp h2
  injection hI with hx hy
  rw [← hq] at hb
  exact ⟨h.eq_ok_iff.mpr ⟨b, hb, by rw [hx]; rfl, fun h => by cases h⟩,
    h.eq_ok_iff.mpr ⟨b, hb, by rw [hy]; rfl, fun h => by cases h⟩⟩

/-- and conversely: successful one-sided calls fix the bounds of a successful two-sided one -/
theorem KindForm.two_of_one (h : KindForm P B bad lo hi) (l l₂ : W)
    (hq : l = (Confidence.twoSided l₂).quantile) (x y : α)
    (hu : P (.upper l) = .ok (.upper x)) (hl : P (.lower l) = .ok (.lower y)) (I : Interval α)
    (h2 : P (.twoSided l₂) = .ok I) : I = .twoSided x y :=
  converse_of_forward Interval.upper Interval.lower (fun _ _ h => by injection h)
    (fun _ _ h => by injection h) (h.one_vs_two l l₂ hq) (h.kind _) x y hu hl I h2

end kindform

theorem finish_kindForm (crit : Crit W) (P : Outcome (Err W) (Arith.Prep W)) :
    KindForm (fun conf => (finish crit conf P : Outcome (Err W) (Interval F)))
      (fun q => tailBounds crit q P) (fun _ => false) Prod.fst Prod.snd := fun conf => by
  simp only [finish_eq_tailBounds, Bool.and_false, Bool.false_eq_true, if_false]

theorem Geometric.kindForm (crit : Crit W) (g : Geometric F) :
    KindForm (g.ciMean crit) (fun q => tailBounds (F := F) crit q (Arith.ciPrep g.logs))
      (fun b => gt b.1 b.2) (fun b => exp b.1) (fun b => exp b.2) := fun conf => by
  unfold Geometric.ciMean
  rw [Arith.ciMean_eq_finish, finish_eq_tailBounds]
  dsimp only
  cases tailBounds (F := F) crit conf.quantile (Arith.ciPrep g.logs) with
  | ok b => exact bind_intervalOfKind_read ⟨negInf, posInf⟩ conf b.1 b.2 exp exp
  | err e => rfl
  | panic t => rfl

/-- the harmonic producer works on the reciprocal-space interval at the *flipped* confidence and
    exchanges its ends -/
theorem Harmonic.kindForm (crit : Crit W) (g : Harmonic F) :
    KindForm (g.ciMean crit) (fun q => tailBounds (F := F) crit q (Arith.ciPrep g.recip))
      (fun b => gt b.1 b.2) (fun b => Harmonic.recipBound b.2) (fun b => Harmonic.recipBound b.1) :=
  fun conf => by
  unfold Harmonic.ciMean
  rw [Arith.ciMean_eq_finish, finish_eq_tailBounds, Confidence.flipped_quantile]
  dsimp only
  cases tailBounds (F := F) crit conf.quantile (Arith.ciPrep g.recip) with
  | ok b => exact bind_intervalOfKind_read_flipped ⟨negInf, posInf⟩ conf b.1 b.2 _ _
  | err e => rfl
  | panic t => rfl

theorem finish_one_vs_two (crit : Crit W) (l l₂ : W)
    (hq : l = (Confidence.twoSided l₂).quantile) (P : Outcome (Err W) (Arith.Prep W)) :
    ∃ B : Outcome (Err W) (F × F),
      (finish crit (.twoSided l₂) P : Outcome (Err W) (Interval F)) =
        B.bind (fun b => liftI (Interval.new b.1 b.2)) ∧
      (finish crit (.upper l) P : Outcome (Err W) (Interval F)) =
        B.map (fun b => Interval.upper b.1) ∧
      (finish crit (.lower l) P : Outcome (Err W) (Interval F)) =
        B.map (fun b => Interval.lower b.2) := by
  refine ⟨tailBounds crit l P, ?_, ?_, ?_⟩ <;> rw [finish_eq_tailBounds]
  · rw [← hq]; rfl
  · exact Outcome.bind_ok_eq_map _ _
  · exact Outcome.bind_ok_eq_map _ _

theorem finish_one_vs_two_forward (crit : Crit W) (l l₂ : W)
    (hq : l = (Confidence.twoSided l₂).quantile) (P : Outcome (Err W) (Arith.Prep W)) (lo hi : F)
    (h : (finish crit (.twoSided l₂) P : Outcome (Err W) (Interval F)) = .ok (.twoSided lo hi)) :
    (finish crit (.upper l) P : Outcome (Err W) (Interval F)) = .ok (.upper lo) ∧
    (finish crit (.lower l) P : Outcome (Err W) (Interval F)) = .ok (.lower hi) :=
  (finish_kindForm crit P).one_vs_two l l₂ hq lo hi h

theorem Geometric.one_vs_two (crit : Crit W) (g : Geometric F) (l l₂ : W)
    (hq : l = (Confidence.twoSided l₂).quantile) (lo hi : F)
    (h : g.ciMean crit (.twoSided l₂) = .ok (.twoSided lo hi)) :
    g.ciMean crit (.upper l) = .ok (.upper lo) ∧ g.ciMean crit (.lower l) = .ok (.lower hi) :=
  (Geometric.kindForm crit g).one_vs_two l l₂ hq lo hi h

/-- the upper one-sided call works on the *lower* one-sided reciprocal-space interval (flipped
    confidence) and conversely -/
theorem Harmonic.one_vs_two (crit : Crit W) (g : Harmonic F) (l l₂ : W)
    (hq : l = (Confidence.twoSided l₂).quantile) (lo hi : F)
    (h : g.ciMean crit (.twoSided l₂) = .ok (.twoSided lo hi)) :
    g.ciMean crit (.upper l) = .ok (.upper lo) ∧ g.ciMean crit (.lower l) = .ok (.lower hi) :=
  (Harmonic.kindForm crit g).one_vs_two l l₂ hq lo hi h

end generic

end StatsCI.Coherence
