/-
  StatsCI.Lemmas.MeanRound — forward rounding-error bounds for the one-sample mean interval of the
  model's `Arith` at the carrier `RR fl` (C01R).

  * the two registers of `Arith.fromList (xs.map inj)` at `RR fl` through `kahan_sequential` (what
    the state holds and what the model computes from it, rounding or not, is in
    `Lemmas/MeanExact`: `mean_val`, `stdDev_val`, `ciMean_fl`); the `sum_sq` register is fed the
    rounded squares, a list perturbed entry by entry (`RelClose`);
  * the chains on plain reals — the variance numerator and the square root in units of a magnitude
    bound (`Rounding.fl_step`), the half-width of the interval on the logarithmic scale
    (`Rounding.Mult`) — and their instances for a real sample: mean → variance → standard
    deviation → interval bounds.
-/
import StatsCI.Lemmas.Rounding
import StatsCI.Lemmas.Kahan
import StatsCI.Lemmas.MeanExact

namespace StatsCI.MeanRound
open StatsCI KahanLemmas MeanLemmas MeanLogRound NumOps Scalar Rounding

variable {fl : ℝ → ℝ} {u : ℝ}

theorem u_small (hu : 0 ≤ u) {n : ℕ} (hn : 2 ≤ n) (hs : (n : ℝ) * u ≤ 1 / 1024) :
    u ≤ 1 / 2048 := by
  have := mul_le_mul_of_nonneg_right (Nat.ofNat_le_cast.mpr hn : (2 : ℝ) ≤ n) hu
  linear_combination (1 / 2) * this + (1 / 2) * hs

/-- `11`: the `10u + 9(n + 2)u²` of `kahan_sequential` with `n·u ≤ 1/1024` -/
theorem kahan_value_bound (hfl : ∀ x, |fl x - x| ≤ u * |x|) (hu : 0 ≤ u) (ys : List ℝ)
    (hn : 2 ≤ ys.length) (hs : (ys.length : ℝ) * u ≤ 1 / 1024) :
    |((Kahan.empty : Kahan (RR fl)).addList (ys.map inj)).value.val - ys.sum| ≤
      11 * u * sumAbs ys := by
  have hu' := u_small hu hn hs
  refine le_trans (kahan_sequential hu (hu'.trans (by norm_num)) hfl ys (hs.trans (by norm_num))) ?_
  refine mul_le_mul_of_nonneg_right ?_ (sumAbs_nonneg ys)
  have f1 := mul_le_mul_of_nonneg_right hs hu
  have f2 := mul_le_mul_of_nonneg_right hu' hu
  rw [pow_two]
  linear_combination 9 * f1 + 18 * f2 + (1 - 36 / 2048) * hu

theorem loFl_le_hiFl (hfl : ∀ x, |fl x - x| ≤ u * |x|) (hmono : Monotone fl) (a : Arith (RR fl))
    {c : ℝ} (hc : 0 ≤ c) : loFl a c ≤ hiFl a c := by
  have hnn := @fl_nonneg_of_monotone fl u hfl hmono
  have h1 : 0 ≤ a.stdDev.val := by
    rw [stdDev_val]; exact hnn (Real.sqrt_nonneg _)
  have h2 : 0 ≤ fl (Real.sqrt a.count) := hnn (Real.sqrt_nonneg _)
  have h3 : 0 ≤ fl (a.stdDev.val / fl (Real.sqrt a.count)) := hnn (div_nonneg h1 h2)
  have h4 : 0 ≤ fl (c * fl (a.stdDev.val / fl (Real.sqrt a.count))) := hnn (mul_nonneg hc h3)
  exact hmono ((sub_le_self _ h4).trans (le_add_of_nonneg_right h4))

theorem ci_fl (xs : List ℝ) (c : ℝ) (conf : Confidence (RR fl)) (hn : 2 ≤ xs.length)
    (hnat : ∀ m : ℕ, m ≤ xs.length → fl m = m) (hp : probOk conf.quantile = true) :
    Arith.ci (constCrit c) conf (xs.map inj) =
      intervalOfKind conf (⟨loFl (fl := fl) (Arith.fromList (xs.map inj)) c⟩ : RR fl)
        ⟨hiFl (fl := fl) (Arith.fromList (xs.map inj)) c⟩ := by
  have hcount := fromList_count' (fl := fl) xs
  unfold Arith.ci
  exact ciMean_fl (constCrit c) _ conf (by rw [hcount]; exact hn) (by rw [hcount]; exact hnat) hp

/-- numerator chain `fl (Q̂ − fl (m̂·Ŝ))` against `Q − m·S`, all errors in units of `u·Q` -/
theorem var_chain (hfl : ∀ x, |fl x - x| ≤ u * |x|) (hu : 0 ≤ u) (hu' : u ≤ 1 / 2048)
    {A X S m Q Sh mh Qh : ℝ} (hA : 0 ≤ A) (hX : 0 ≤ X) (hXA : X * A ≤ Q) (hS : |S| ≤ A)
    (hm : |m| ≤ X) (hmS : 0 ≤ m * S) (hD : 0 ≤ Q - m * S)
    (hSh : |Sh - S| ≤ 11 * u * A) (hmh : |mh - m| ≤ 13 * u * X) (hQh : |Qh - Q| ≤ 13 * u * Q) :
    |fl (Qh - fl (mh * Sh)) - (Q - m * S)| ≤ 42 * u * Q := by
  have hP : 0 ≤ X * A := mul_nonneg hX hA
  have hQ0 : 0 ≤ Q := le_trans hP hXA
  -- the product: `13 + 11 + 13·11·u ≤ 25` units of `u·X·A ≤ u·Q`
  have hprod : |mh * Sh - m * S| ≤ 25 * u * Q := by
    have h := mul_close hmh hSh
    have h1 := mul_le_mul_of_nonneg_left (add_le_add_right hS (11 * u * A))
      (le_trans (abs_nonneg _) hmh)
    have h2 := mul_le_mul_of_nonneg_right hm (le_trans (abs_nonneg _) hSh)
    have f1 := mul_le_mul_of_nonneg_right hu' (mul_nonneg hu hP)
    have f2 := mul_le_mul_of_nonneg_left hXA hu
    linear_combination h + h1 + h2 + 143 * f1 + (24 + 143 / 2048) * f2
      + (1 - 143 / 2048) * mul_nonneg hu hQ0
  have hp := fl_step hfl hu hu' (k' := 27) (by norm_num) (by norm_num)
    ((abs_of_nonneg hmS).le.trans (sub_nonneg.mp hD)) hprod
  -- the difference: `13 + 27` units, and the last rounding
  have hsub := sub_close hQh hp
  exact fl_step hfl hu hu' (by norm_num) (by norm_num)
    ((abs_of_nonneg hD).le.trans (sub_le_self Q hmS))
    (hsub.trans_eq (by ring) : |Qh - fl (mh * Sh) - (Q - m * S)| ≤ 40 * u * Q)

/-- the rounded square root of `vh ≈ v` (off by `k·u·Y`, `v ≤ Y`): `K₁·√(u·Y)` always, from
    `|√vh − √v| ≤ √|vh − v|` and `u·√v ≤ √u·√(u·Y) ≤ √(u·Y)/32`; and `K₂·u·Y/√v`, from
    `|√vh − √v|·√v ≤ |vh − v|` -/
theorem sd_chain_closed (hfl : ∀ x, |fl x - x| ≤ u * |x|) (hu : 0 ≤ u) (hu' : u ≤ 1 / 2048)
    {vh v Y k K₁ K₂ : ℝ} (hvh : 0 ≤ vh) (hv : 0 ≤ v) (hvY : v ≤ Y) (hk : 0 ≤ k)
    (h : |vh - v| ≤ k * u * Y) (hK₁ : (1 + 1 / 2048) * Real.sqrt k + 1 / 32 ≤ K₁)
    (hK₂ : (1 + 1 / 2048) * k + 1 ≤ K₂) :
    |fl (Real.sqrt vh) - Real.sqrt v| ≤ K₁ * Real.sqrt (u * Y) ∧
    |fl (Real.sqrt vh) - Real.sqrt v| * Real.sqrt v ≤ K₂ * u * Y := by
  have hs0 := Real.sqrt_nonneg v
  have huY : 0 ≤ u * Y := mul_nonneg hu (le_trans hv hvY)
  constructor
  · have c1 := fl_close hfl hu (le_trans (abs_sqrt_sub_sqrt_le hvh hv) (Real.sqrt_le_sqrt h))
      (abs_of_nonneg hs0).le
    set r := Real.sqrt (u * Y) with hr
    have hr0 : 0 ≤ r := Real.sqrt_nonneg _
    have hsu : Real.sqrt u ≤ 1 / 32 := by
      rw [Real.sqrt_le_iff]; constructor
      · norm_num
      · exact hu'.trans (by norm_num)
    have a1 := mul_le_mul_of_nonneg_left (Real.sqrt_le_sqrt hvY) hu
    have a2 : u * Real.sqrt Y = Real.sqrt u * r := by
      rw [hr, Real.sqrt_mul hu, ← mul_assoc, Real.mul_self_sqrt hu]
    have a3 := mul_le_mul_of_nonneg_right hsu hr0
    have t3 := mul_le_mul_of_nonneg_right hu' (mul_nonneg (Real.sqrt_nonneg k) hr0)
    have m := mul_le_mul_of_nonneg_right hK₁ hr0
    rw [mul_assoc, Real.sqrt_mul hk] at c1
    linear_combination c1 + a1 + a2 + a3 + t3 + m
  · have h1 := mul_le_mul_of_nonneg_right
      (fl_close hfl hu (le_refl |Real.sqrt vh - Real.sqrt v|) (abs_of_nonneg hs0).le) hs0
    have d2 := mul_le_mul_of_nonneg_left (le_trans (abs_sqrt_sub_mul_le hv) h)
      (add_nonneg zero_le_one hu)
    have e : u * (Real.sqrt v * Real.sqrt v) = u * v := by rw [Real.mul_self_sqrt hv]
    have f1 := mul_le_mul_of_nonneg_left (mul_le_mul_of_nonneg_right hu' huY) hk
    have f2 := mul_le_mul_of_nonneg_left hvY hu
    have m := mul_le_mul_of_nonneg_right hK₂ huY
    linear_combination h1 + d2 + e + f1 + f2 + m

/-- the two bounds `ci_mean` computes from a state `a` with `n ≥ 2` entries, against `m ∓ c·s/√n`
    for any reals `m`, `s` that the computed mean and standard deviation approximate: the mean off
    by `k·u·X` (`|m| ≤ X`), the standard deviation by `Δ`. -/
theorem interval_step (hfl : ∀ x, |fl x - x| ≤ u * |x|) (hu : 0 ≤ u) (hu' : u ≤ 1 / 2048)
    (a : Arith (RR fl)) {n : ℕ} (hcount : a.count = n) (hn : 2 ≤ n) {m s X Δ k k' c : ℝ}
    (hc : 0 ≤ c) (hs : 0 ≤ s) (hX : |m| ≤ X) (hk : 0 ≤ k) (hk' : k + 1 + k / 2048 ≤ k')
    (hm : |a.mean.val - m| ≤ k * u * X) (hΔ : |a.stdDev.val - s| ≤ Δ) :
    |loFl a c - (m - c * (s / Real.sqrt n))| ≤
      k' * u * X + (1 + 8 * u) * (c * (Δ / Real.sqrt n)) + 7 * u * (c * (s / Real.sqrt n)) ∧
    |hiFl a c - (m + c * (s / Real.sqrt n))| ≤
      k' * u * X + (1 + 8 * u) * (c * (Δ / Real.sqrt n)) + 7 * u * (c * (s / Real.sqrt n)) := by
  have hR : 0 < Real.sqrt n := Real.sqrt_pos.mpr (natCast_pos hn)
  have hv := Mult.of_fl hfl hu (hu'.trans_lt (by norm_num))
  -- the half-width is a product: three roundings between `ŝ` and `fl (c·fl (ŝ / fl √n))`
  have hw : Mult (3 * -Real.log (1 - u)) (fl (c * fl (a.stdDev.val / fl (Real.sqrt n))))
      (c * (a.stdDev.val / Real.sqrt n)) :=
    (Mult.fl hv ((Mult.refl c).mul (Mult.fl hv ((Mult.refl _).div (hv _))))).mono
      (le_of_eq (by ring))
  have hrel := hw.abs_sub_le_unit (by norm_num) (by norm_num) hu (hu'.trans (by norm_num))
  have hP := mul_left_close c (div_right_close hR hΔ)
  rw [abs_of_nonneg hc] at hP
  have k2 : (1 + u) * (1 + 1.01 * 3 * u) ≤ 1 + 7 * u :=
    coef_step hu hu' (by norm_num) le_rfl (by norm_num)
  simp only [loFl, hiFl, hcount]
  exact pm_step hfl hu hX (mul_nonneg hc (div_nonneg hs hR.le)) hm (mul_nonneg (by norm_num) hu) hrel hP
    (coef_step hu hu' hk le_rfl hk') k2 (k2.trans (by linear_combination hu))

section sample
variable (hfl : ∀ x, |fl x - x| ≤ u * |x|) (hu : 0 ≤ u) (xs : List ℝ)
  (hn : 2 ≤ xs.length) (hs : (xs.length : ℝ) * u ≤ 1 / 1024)
  (hnat : ∀ m : ℕ, m ≤ xs.length → fl m = m)

include hfl hu hn hs in
theorem sum_value_bound :
    |(Arith.fromList (xs.map inj) : Arith (RR fl)).sum.value.val - xs.sum| ≤
      11 * u * sumAbs xs := by
  rw [fromList_sum]
  exact kahan_value_bound hfl hu xs hn hs

include hfl hu hn hs in
/-- `13`: `11·(1 + u)` for the register on the rounded squares and `1` for rounding the squares -/
theorem sumSq_value_bound :
    |(Arith.fromList (xs.map inj) : Arith (RR fl)).sumSq.value.val - sumSq xs| ≤
      13 * u * sumSq xs := by
  have hu' := u_small hu hn hs
  have hrc := relClose_map_fl hfl (xs.map fun x => x * x)
  have hlen : ((xs.map fun x => x * x).map fl).length = xs.length := by simp
  have b1 : |_ - sumSq xs| ≤ _ := hrc.sum
  have b2 := hrc.sumAbs_le
  rw [sumAbs_map_mul_self] at b1 b2
  rw [fromList_sumSq]
  have h := kahan_value_bound hfl hu _ (hlen ▸ hn) (hlen ▸ hs)
  have h2 := mul_le_mul_of_nonneg_left b2 (mul_nonneg (by norm_num) hu : 0 ≤ 11 * u)
  have f := mul_le_mul_of_nonneg_right (mul_le_mul_of_nonneg_left hu' hu) (sumSq_nonneg xs)
  linear_combination trans_close h b1 + h2 + 11 * f
    + (1 - 11 / 2048) * mul_nonneg hu (sumSq_nonneg xs)

include hfl hu hn hs hnat in
/-- `13 = 11 + 2`: the register, then one rounded division -/
theorem mean_bound :
    |(Arith.fromList (xs.map inj) : Arith (RR fl)).mean.val - smean xs| ≤
      13 * u * (sumAbs xs / xs.length) := by
  rw [mean_val, fromList_count', hnat _ le_rfl]
  exact fl_step_div hfl hu (u_small hu hn hs) (natCast_pos hn) (by norm_num) (by norm_num)
    (abs_sum_le_sumAbs xs) (sum_value_bound hfl hu xs hn hs)

include hfl hu hn hs hnat in
/-- `44 = 42 + 2`: the numerator (`var_chain`), then one rounded division; the clamp at zero does not
    increase the error -/
theorem variance_bound :
    |(Arith.fromList (xs.map inj) : Arith (RR fl)).variance.val - svar xs| ≤
      44 * u * (sumSq xs / ((xs.length : ℝ) - 1)) := by
  have hM0 : (0 : ℝ) < (xs.length : ℝ) - 1 := natCast_sub_one_pos hn
  have hu' := u_small hu hn hs
  have hcast : ((xs.length - 1 : ℕ) : ℝ) = (xs.length : ℝ) - 1 := Nat.cast_pred (by omega)
  set a : Arith (RR fl) := Arith.fromList (xs.map inj) with ha
  -- the clamp at zero: `max` is 1-Lipschitz and the exact variance is its own clamp
  have hcl := abs_max_sub_max_le_abs (rawVar a).val (svar xs) 0
  rw [max_comm _ 0, max_comm _ 0, max_eq_right (svar_nonneg xs (by omega))] at hcl
  rw [Arith.variance_val]
  refine le_trans hcl ?_
  have hD : 0 ≤ sumSq xs - smean xs * xs.sum := sum_mul_le xs (by omega)
  have hmS := smean_mul_sum_nonneg xs
  have hnum := var_chain hfl hu hu' (sumAbs_nonneg xs)
    (div_nonneg (sumAbs_nonneg xs) (Nat.cast_nonneg xs.length)) (sumAbs_mul_le xs (by omega))
    (abs_sum_le_sumAbs xs) (abs_smean_le xs) hmS hD
    (sum_value_bound hfl hu xs hn hs) (mean_bound hfl hu xs hn hs hnat)
    (sumSq_value_bound hfl hu xs hn hs)
  have hvr : (rawVar a).val = fl (fl (a.sumSq.value.val - fl (a.mean.val * a.sum.value.val)) /
      ((xs.length : ℝ) - 1)) := by
    show fl (_ / fl ((a.count - 1 : ℕ) : ℝ)) = _
    rw [ha, fromList_count', hnat _ (Nat.sub_le _ _), hcast]
    rfl
  rw [hvr, svar_eq xs (by omega)]
  exact fl_step_div hfl hu hu' hM0 (by norm_num) (by norm_num)
    ((abs_of_nonneg hD).le.trans (sub_le_self _ hmS)) hnum

include hfl hu hn hs hnat in
theorem stdDev_bound :
    |(Arith.fromList (xs.map inj) : Arith (RR fl)).stdDev.val - ssd xs| ≤
      7 * Real.sqrt (u * (sumSq xs / ((xs.length : ℝ) - 1))) ∧
    |(Arith.fromList (xs.map inj) : Arith (RR fl)).stdDev.val - ssd xs| * ssd xs ≤
      46 * u * (sumSq xs / ((xs.length : ℝ) - 1)) := by
  rw [stdDev_val]
  unfold ssd
  -- `44` units on the variance: `(1 + 1/2048)·√44 + 1/32 ≤ 7` and `(1 + 1/2048)·44 + 1 ≤ 46`
  have h44 : Real.sqrt 44 ≤ 6.64 := by
    rw [Real.sqrt_le_iff]; constructor <;> norm_num
  exact sd_chain_closed hfl hu (u_small hu hn hs) (variance_nonneg _)
    (svar_nonneg xs (by omega)) (svar_le xs hn) (by norm_num)
    (variance_bound hfl hu xs hn hs hnat) (by linear_combination (1 + 1 / 2048) * h44) (by norm_num)

include hfl hu hn hs hnat in
/-- `15`: the `13` of `mean_bound` through the last rounding (`interval_step`, `13 + 1 + 13/2048`) -/
theorem bounds_bound_of_le (c : ℝ) (hc : 0 ≤ c) {Δ : ℝ}
    (hΔ : |(Arith.fromList (xs.map inj) : Arith (RR fl)).stdDev.val - ssd xs| ≤ Δ) :
    let a : Arith (RR fl) := Arith.fromList (xs.map inj)
    let B := 15 * u * (sumAbs xs / xs.length)
      + (1 + 8 * u) * (c * (Δ / Real.sqrt xs.length))
      + 7 * u * (c * (ssd xs / Real.sqrt xs.length))
    |loFl a c - (smean xs - c * (ssd xs / Real.sqrt xs.length))| ≤ B ∧
    |hiFl a c - (smean xs + c * (ssd xs / Real.sqrt xs.length))| ≤ B :=
  interval_step hfl hu (u_small hu hn hs) _ (fromList_count' xs) hn hc
    (Real.sqrt_nonneg _) (abs_smean_le xs) (by norm_num) (by norm_num)
    (mean_bound hfl hu xs hn hs hnat) hΔ

end sample

/-- the `κ`-form of an interval bound: with `κ = Y/s²` and `hw = c·s/R`, a bound
    `a·u·X + (1+8u)·c·(d·u·Y/s)/R + 7u·hw + g·u·c·√Y/R` (the standard deviation off by `d·u·Y/s`)
    is at most `K·u·(X + hw·(1 + κ))`; `(1 + 8u)·d ≤ (1 + 1/256)·d`, and `2·√Y/s ≤ 1 + κ` spreads
    the last term over `hw` and `hw·κ` -/
theorem kappa_le (hu : 0 ≤ u) (hu' : u ≤ 1 / 2048) {X Y s R c a d g K : ℝ} (hX : 0 ≤ X)
    (hY : 0 ≤ Y) (hs : 0 < s) (hR : 0 < R) (hc : 0 ≤ c) (hd0 : 0 ≤ d) (hg0 : 0 ≤ g) (ha : a ≤ K)
    (hd : (1 + 1 / 256) * d + g / 2 ≤ K) (hg : 7 + g / 2 ≤ K) :
    a * u * X + (1 + 8 * u) * (c * (d * u * Y / s / R)) + 7 * u * (c * (s / R))
        + g * u * (c * (Real.sqrt Y / R)) ≤
      K * u * (X + c * (s / R) * (1 + Y / (s * s))) := by
  -- one factor `s` cancels (by hand: `field_simp` is slow here)
  have e : c * (d * u * Y / s / R) = d * (u * (c * (s / R) * (Y / (s * s)))) := by
    rw [mul_assoc c (s / R), div_mul_div_comm, ← mul_assoc R, mul_comm s Y,
      mul_div_mul_right _ _ hs.ne']
    ring
  have e' : c * (Real.sqrt Y / R) = c * (s / R) * (Real.sqrt Y / s) := by
    rw [mul_assoc, div_mul_div_comm, mul_comm s, mul_div_mul_right _ _ hs.ne']
  have hhw0 : 0 ≤ c * (s / R) := mul_nonneg hc (div_nonneg hs.le hR.le)
  have hκ0 : 0 ≤ Y / (s * s) := div_nonneg hY (mul_nonneg hs.le hs.le)
  have hq : 2 * (Real.sqrt Y / s) ≤ 1 + Y / (s * s) := by
    have e2 : (Real.sqrt Y / s) ^ 2 = Y / (s * s) := by rw [div_pow, Real.sq_sqrt hY, sq]
    linear_combination sq_nonneg (1 - Real.sqrt Y / s) + e2
  rw [e, e']
  generalize c * (s / R) = hw at hhw0 ⊢
  generalize Y / (s * s) = κ at hκ0 hq ⊢
  generalize Real.sqrt Y / s = q at hq ⊢
  have huhw : 0 ≤ u * hw := mul_nonneg hu hhw0
  have huW : 0 ≤ u * (hw * κ) := mul_nonneg hu (mul_nonneg hhw0 hκ0)
  have h1 := mul_le_mul_of_nonneg_right (mul_le_mul_of_nonneg_right ha hu) hX
  have h2 := mul_le_mul_of_nonneg_right
    (mul_le_mul_of_nonneg_right (by linear_combination 8 * hu' : 1 + 8 * u ≤ 1 + 1 / 256) hd0) huW
  have h3 := mul_le_mul_of_nonneg_left
    (mul_le_mul_of_nonneg_left hq huhw) (div_nonneg hg0 zero_le_two)
  have m1 := mul_le_mul_of_nonneg_right hd huW
  have m2 := mul_le_mul_of_nonneg_right hg huhw
  linear_combination h1 + h2 + h3 + m1 + m2

end StatsCI.MeanRound
