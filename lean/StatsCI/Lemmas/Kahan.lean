/-
  StatsCI.Lemmas.Kahan — the compensated-summation register `Kahan` at the carrier `RR fl`.
  The quantity a register maintains is `sum − comp`: one step moves it from `s − c` to
  `s − c + x` up to three small roundings (`drift_real`). The invariant `G` says how far it is from
  a target; it is carried along a list with the budgets `teStep`, whose closed form gives the
  sequential bound. The crate reads `sum + comp`, which costs `2|c|` once, at the end
  (`value_sub_tracked`). One step, the invariant and its re-targeting, and the budgets are analysed
  over plain reals (`drift_real`, `step_real`, `Inv`/`G`, `inv_retarget`, `teStep_closed`); the
  model's `add`, `addList`, `value`, `merge` at `RR fl` are read into them through their values
  (`add_sum_val`, `add_comp_val`, `value_val`, `merge_eq`), not through a second copy of the register.
-/
import StatsCI.Lemmas.RR
import StatsCI.Lemmas.Rounding
import StatsCI.Lemmas.SampleStats
import Mathlib.Tactic.LinearCombination
import Mathlib.Tactic.Ring
import Mathlib.Algebra.Order.Ring.Abs
import Mathlib.Algebra.BigOperators.Group.List.Basic

namespace StatsCI
namespace KahanLemmas
open Rounding

variable {fl : ℝ → ℝ}

theorem add_sum_val (k : Kahan (RR fl)) (x : RR fl) :
    (k.add x).sum.val = fl (k.sum.val + fl (x.val - k.comp.val)) := rfl

theorem add_comp_val (k : Kahan (RR fl)) (x : RR fl) :
    (k.add x).comp.val =
      fl (fl (fl (k.sum.val + fl (x.val - k.comp.val)) - k.sum.val) - fl (x.val - k.comp.val)) :=
  rfl

theorem value_val (k : Kahan (RR fl)) : k.value.val = fl (k.sum.val + k.comp.val) := rfl

theorem merge_eq (k r : Kahan (RR fl)) : k.merge r = (k.add r.sum).add r.comp := rfl

@[simp] theorem empty_sum_val : (Kahan.empty : Kahan (RR fl)).sum.val = 0 := rfl
@[simp] theorem empty_comp_val : (Kahan.empty : Kahan (RR fl)).comp.val = 0 := rfl

theorem addList_nil (k : Kahan (RR fl)) : k.addList [] = k := rfl
theorem addList_cons (k : Kahan (RR fl)) (x : RR fl) (xs : List (RR fl)) :
    k.addList (x :: xs) = (k.add x).addList xs := rfl
theorem addList_append (k : Kahan (RR fl)) (xs ys : List (RR fl)) :
    k.addList (xs ++ ys) = (k.addList xs).addList ys := by
  simp [Kahan.addList, List.foldl_append]

theorem abs_fl_le {u : ℝ} (hfl : ∀ x, |fl x - x| ≤ u * |x|) (x : ℝ) : |fl x| ≤ (1 + u) * |x| :=
  Rounding.abs_fl_le hfl x

/-- One compensated step on plain reals: with `y = fl a`, `t = fl (s + y)`, `d = fl (t − s)`,
    `c' = fl (d − y)` one has `(t − c') − (s + a) = (y − a) − (d − (t − s)) − (c' − (d − y))`.
    The rounding error `t − (s + y)` of the main addition does not occur, so `t − c'` drifts from
    `s + a` by three *small* rounding errors only (DESIGN.md Appendix A.1). -/
theorem drift_real {u : ℝ} (hfl : ∀ x, |fl x - x| ≤ u * |x|) (s a : ℝ) :
    |fl (s + fl a) - fl (fl (fl (s + fl a) - s) - fl a) - (s + a)| ≤
      u * |a| + (u * |fl (s + fl a) - s| + u * |fl (fl (s + fl a) - s) - fl a|) := by
  set y := fl a
  set t := fl (s + y)
  set d := fl (t - s)
  set c' := fl (d - y)
  rw [show t - c' - (s + a) = (y - a) - ((d - (t - s)) + (c' - (d - y))) by ring]
  exact (abs_sub _ _).trans (add_le_add (hfl a)
    ((abs_add_le _ _).trans (add_le_add (hfl (t - s)) (hfl (d - y)))))

theorem step_drift {u : ℝ} (hfl : ∀ x, |fl x - x| ≤ u * |x|)
    (k : Kahan (RR fl)) (x : RR fl) :
    |((k.add x).sum.val - (k.add x).comp.val) - ((k.sum.val - k.comp.val) + x.val)| ≤
      u * |x.val - k.comp.val|
        + (u * |fl (k.sum.val + fl (x.val - k.comp.val)) - k.sum.val|
          + u * |fl (fl (k.sum.val + fl (x.val - k.comp.val)) - k.sum.val)
                  - fl (x.val - k.comp.val)|) := by
  have h := drift_real hfl k.sum.val (x.val - k.comp.val)
  rwa [show k.sum.val + (x.val - k.comp.val) = k.sum.val - k.comp.val + x.val by ring] at h

/-- `G` without its side condition, which a step needs of the state it starts from and does not
    deliver:
    the register `(s, c)` tracks the target `S` through `s − c`, with magnitude budget `T` and error
    allowance `E` (DESIGN.md Appendix A.2) -/
structure Inv (u S T E s c : ℝ) : Prop where
  hT : |S| ≤ T
  hc : |c| ≤ 3 * u * T
  he : |s - c - S| ≤ E

/-- generalised invariant: `Inv` together with the side condition `E ≤ T / 4` that lets the next
    step be taken -/
structure G (u S T E s c : ℝ) : Prop where
  hT : |S| ≤ T
  hc : |c| ≤ 3 * u * T
  he : |s - c - S| ≤ E
  hE : E ≤ T / 4

theorem G.empty (u : ℝ) :
    G u 0 0 0 (Kahan.empty : Kahan (RR fl)).sum.val (Kahan.empty : Kahan (RR fl)).comp.val :=
  ⟨by simp, by simp, by simp, by simp⟩

theorem G.inv {u S T E s c : ℝ} (h : G u S T E s c) : Inv u S T E s c := ⟨h.hT, h.hc, h.he⟩
theorem Inv.toG {u S T E s c : ℝ} (h : Inv u S T E s c) (hE : E ≤ T / 4) : G u S T E s c :=
  ⟨h.hT, h.hc, h.he, hE⟩

theorem Inv.T_nonneg {u S T E s c : ℝ} (h : Inv u S T E s c) : 0 ≤ T :=
  le_trans (abs_nonneg _) h.hT
theorem G.T_nonneg {u S T E s c : ℝ} (h : G u S T E s c) : 0 ≤ T := h.inv.T_nonneg

theorem Inv.abs_s_le {u S T E s c : ℝ} (h : Inv u S T E s c) : |s| ≤ |S| + E + 3 * u * T := by
  linear_combination abs_le_of_close (sub_sub s c S ▸ h.he) + abs_add_le c S + h.hc

/-- `|s| ≤ |S| + E + 3uT ≤ (1 + 1/4 + 3/64)·T` -/
theorem G.abs_s_le {u S T E s c : ℝ} (h : G u S T E s c) (hu' : u ≤ 1 / 64) :
    |s| ≤ (83 / 64) * T := by
  have h3 : u * T ≤ 1 / 64 * T := mul_le_mul_of_nonneg_right hu' h.T_nonneg
  linear_combination h.inv.abs_s_le + h.hT + h.hE + 3 * h3

/-- One compensated step, no invariant: the main register `s` and the corrected addend `a = x − c`
    enter only through bounds `σ`, `α`; the new register `(t, c')` tracks `s + a` up to `2uα` and
    second-order terms (`drift_real`). -/
theorem step_real {u : ℝ} (hu : 0 ≤ u) (hu' : u ≤ 1 / 64) (hfl : ∀ x, |fl x - x| ≤ u * |x|)
    {s a σ α : ℝ} (hs : |s| ≤ σ) (ha : |a| ≤ α) :
    |fl (s + fl a) - s| ≤ α + u * σ + 129 / 64 * (u * α) ∧
    |fl (fl (fl (s + fl a) - s) - fl a)| ≤ 17 / 16 * (u * σ) + 17 / 8 * (u * α) ∧
    |fl (s + fl a) - fl (fl (fl (s + fl a) - s) - fl a) - (s + a)| ≤
      2 * (u * α) + u * (33 / 16 * (u * σ) + 33 / 8 * (u * α)) := by
  have h0 := drift_real hfl s a
  set y := fl a
  set t := fl (s + y)
  set d := fl (t - s)
  set c' := fl (d - y)
  have hP : 0 ≤ u * σ := mul_nonneg hu ((abs_nonneg s).trans hs)
  have hQ : 0 ≤ u * α := mul_nonneg hu ((abs_nonneg a).trans ha)
  have fP : u * (u * σ) ≤ 1 / 64 * (u * σ) := mul_le_mul_of_nonneg_right hu' hP
  have fQ : u * (u * α) ≤ 1 / 64 * (u * α) := mul_le_mul_of_nonneg_right hu' hQ
  have m1 : u * |a| ≤ u * α := mul_le_mul_of_nonneg_left ha hu
  have hy : |y| ≤ α + u * α :=
    (abs_le_of_close ((hfl a).trans m1)).trans (add_le_add ha le_rfl)
  have hr : |t - s - y| ≤ u * (σ + (α + u * α)) := sub_sub t s y ▸
    (hfl _).trans (mul_le_mul_of_nonneg_left ((abs_add_le s y).trans (add_le_add hs hy)) hu)
  -- the constants: the first-order coefficient plus the higher orders absorbed through `u ≤ 1/64`
  -- (`fP`, `fQ`), rounded up to a short fraction: `129/64 = 2 + 1/64`,
  -- `33/16 ≥ 2 + 1/64 + 129/64²`, `17/16 ≥ (65/64)²`, `17/8 ≥ 65/64 · 33/16`
  have hts : |t - s| ≤ α + u * σ + 129 / 64 * (u * α) := by
    linear_combination abs_le_of_close hr + hy + fQ
  have m3 : u * |t - s| ≤ u * (α + u * σ + 129 / 64 * (u * α)) :=
    mul_le_mul_of_nonneg_left hts hu
  have hdy : |d - y| ≤ 65 / 64 * (u * σ) + 33 / 16 * (u * α) := by
    linear_combination trans_close ((hfl (t - s)).trans m3) hr + fP + 193 / 64 * fQ
      + 63 / 4096 * hQ
  have m4 : u * |d - y| ≤ u * (65 / 64 * (u * σ) + 33 / 16 * (u * α)) :=
    mul_le_mul_of_nonneg_left hdy hu
  refine ⟨hts, ?_, ?_⟩
  · linear_combination abs_le_of_close ((hfl (d - y)).trans m4) + hdy + 65 / 64 * fP
      + 33 / 16 * fQ + 127 / 4096 * hP + 31 / 1024 * hQ
  · linear_combination h0 + m1 + m3 + m4 + 3 / 64 * mul_nonneg hu hP + 3 / 64 * mul_nonneg hu hQ

/-- `step_real` read on the model step: `a = x − c`, and `s + a` is the tracked `s − c` plus `x` -/
theorem add_crude {u : ℝ} (hu : 0 ≤ u) (hu' : u ≤ 1 / 64) (hfl : ∀ x, |fl x - x| ≤ u * |x|)
    (k : Kahan (RR fl)) (x : RR fl) {σ α : ℝ} (hs : |k.sum.val| ≤ σ)
    (ha : |x.val - k.comp.val| ≤ α) :
    |(k.add x).sum.val - k.sum.val| ≤ α + u * σ + 129 / 64 * (u * α) ∧
    |(k.add x).comp.val| ≤ 17 / 16 * (u * σ) + 17 / 8 * (u * α) ∧
    |(k.add x).sum.val - (k.add x).comp.val - (k.sum.val - k.comp.val + x.val)| ≤
      2 * (u * α) + u * (33 / 16 * (u * σ) + 33 / 8 * (u * α)) := by
  have h := step_real hu hu' hfl hs ha
  rwa [show k.sum.val + (x.val - k.comp.val) = k.sum.val - k.comp.val + x.val by ring] at h

/-- one model step under the invariant, the addend known through a bound `X` only; the side
    condition is needed before the step only, so what comes out is an `Inv` -/
theorem step_inv_le {u : ℝ} (hu : 0 ≤ u) (hu' : u ≤ 1 / 64) (hfl : ∀ x, |fl x - x| ≤ u * |x|)
    {S T E X : ℝ} {k : Kahan (RR fl)} {x : RR fl} (h : G u S T E k.sum.val k.comp.val)
    (hX : |x.val| ≤ X) :
    Inv u (S + x.val) (T + X) (E + 2 * u * X + 9 * u ^ 2 * (T + X))
      (k.add x).sum.val (k.add x).comp.val := by
  have hs := h.abs_s_le hu'
  obtain ⟨hT, hc, he, -⟩ := h
  obtain ⟨-, hc', hd⟩ := add_crude hu hu' hfl k x hs ((abs_sub _ _).trans (add_le_add hX hc))
  have huT : 0 ≤ u * T := mul_nonneg hu ((abs_nonneg S).trans hT)
  have huX : 0 ≤ u * X := mul_nonneg hu ((abs_nonneg _).trans hX)
  have f1 : u * (u * T) ≤ 1 / 64 * (u * T) := mul_le_mul_of_nonneg_right hu' huT
  have f3 : u * (u * (u * T)) ≤ 1 / 64 * (u * (u * T)) :=
    mul_le_mul_of_nonneg_right hu' (mul_nonneg hu huT)
  refine ⟨(abs_add_le _ _).trans (add_le_add hT hX), hc'.trans ?_, ?_⟩
  · linear_combination 51 / 8 * f1 + 1559 / 1024 * huT + 7 / 8 * huX
  · have := trans_close hd ((congrArg abs (add_sub_add_right_eq_sub _ _ _)).trans_le he)
    -- with `σ = 83/64·T`, `α = X + 3uT` the `u²T` terms add up to `6 + 33/16·83/64 + 99/512 < 9`:
    -- no room to round the second-order constants of `step_real` up to first order
    linear_combination this + 99 / 8 * f3 + 135 / 1024 * mul_nonneg hu huT
      + 39 / 8 * mul_nonneg hu huX

theorem g_step {u : ℝ} (hu : 0 ≤ u) (hu' : u ≤ 1 / 64) (hfl : ∀ x, |fl x - x| ≤ u * |x|)
    (S T E : ℝ) (k : Kahan (RR fl)) (x : RR fl) (h : G u S T E k.sum.val k.comp.val)
    (hnext : E + 2 * u * |x.val| + 9 * u ^ 2 * (T + |x.val|) ≤ (T + |x.val|) / 4) :
    G u (S + x.val) (T + |x.val|) (E + 2 * u * |x.val| + 9 * u ^ 2 * (T + |x.val|))
      (k.add x).sum.val (k.add x).comp.val :=
  (step_inv_le hu hu' hfl h le_rfl).toG hnext

theorem inv_retarget {u S S' T T' E E' s c : ℝ} (h : Inv u S T E s c) (hu : 0 ≤ u)
    (hS : |S' - S| ≤ E' - E) (hT : T ≤ T') (hS' : |S'| ≤ T') : Inv u S' T' E' s c := by
  obtain ⟨h1, h2, h3⟩ := h
  refine ⟨hS', ?_, ?_⟩
  · linear_combination h2 + 3 * mul_le_mul_of_nonneg_left hT hu
  · exact (trans_close h3 ((abs_sub_comm S S').trans_le hS)).trans_eq (add_sub_cancel E E')

theorem g_retarget {u : ℝ} (S S' T T' E E' s c : ℝ) (h : G u S T E s c) (hu : 0 ≤ u)
    (hS : |S' - S| ≤ E' - E) (hT : T ≤ T') (hS' : |S'| ≤ T') (hE' : E' ≤ T' / 4) :
    G u S' T' E' s c :=
  (inv_retarget h.inv hu hS hT hS').toG hE'

/-- budgets `(T, E)` after one `append x`: `T' = T + |x|`, `E' = E + 2u|x| + 9u²·T'` -/
noncomputable def teStep (u : ℝ) (te : ℝ × ℝ) (x : ℝ) : ℝ × ℝ :=
  (te.1 + |x|, te.2 + 2 * u * |x| + 9 * u ^ 2 * (te.1 + |x|))

/-- side condition `E ≤ T/4` after every element of an `extend` -/
def OkList (u : ℝ) : ℝ × ℝ → List ℝ → Prop
  | _, [] => True
  | te, x :: xs => (teStep u te x).2 ≤ (teStep u te x).1 / 4 ∧ OkList u (teStep u te x) xs

theorem foldl_teStep_fst (u : ℝ) : ∀ (xs : List ℝ) (te : ℝ × ℝ),
    (xs.foldl (teStep u) te).1 = te.1 + sumAbs xs
  | [], te => by simp
  | x :: xs, te => by
    rw [List.foldl_cons, foldl_teStep_fst u xs, sumAbs_cons, ← add_assoc]; rfl

theorem addList_inv {u : ℝ} (hu : 0 ≤ u) (hu' : u ≤ 1 / 64) (hfl : ∀ x, |fl x - x| ≤ u * |x|) :
    ∀ (xs : List ℝ) (S : ℝ) (te : ℝ × ℝ) (k : Kahan (RR fl)),
      G u S te.1 te.2 k.sum.val k.comp.val → OkList u te xs →
      G u (S + xs.sum) (xs.foldl (teStep u) te).1 (xs.foldl (teStep u) te).2
        (k.addList (xs.map inj)).sum.val (k.addList (xs.map inj)).comp.val
  | [], S, te, k, h, _ => by simpa [addList_nil] using h
  | x :: xs, S, te, k, h, hok => by
    have hstep := g_step hu hu' hfl S te.1 te.2 k (inj x) h hok.1
    have ih := addList_inv hu hu' hfl xs (S + x) (teStep u te x) (k.add (inj x)) hstep hok.2
    rw [List.sum_cons, ← add_assoc, List.map_cons, addList_cons, List.foldl_cons]
    exact ih

/-- the side condition from a rate: `E ≤ ε·A ≤ A/4 ≤ T/4` -/
theorem quarter_of_rate {E T A ε : ℝ} (hE : E ≤ ε * A) (hε : ε ≤ 1 / 4) (hA : 0 ≤ A)
    (hT : A ≤ T) : E ≤ T / 4 := by
  linear_combination hE + mul_le_mul_of_nonneg_right hε hA + 1 / 4 * hT

/-- the budgets as rates of `A = Σ|x|`: a step keeps `A ≤ T ≤ τ·A`, `E ≤ e·A` with `e` grown by
    `δ ≥ 9τu²` (`τ = 1`, `δ = 9u²` for a sequential run; `5/4`, `12u²` under merges), and the side
    condition holds while the rate is at most `1/4` -/
theorem teStep_closed {u e δ τ A x : ℝ} {te : ℝ × ℝ} (he : 2 * u ≤ e) (hτ : 1 ≤ τ)
    (hδ : 9 * τ * u ^ 2 ≤ δ) (hA : 0 ≤ A) (h1 : A ≤ te.1) (h2 : te.1 ≤ τ * A) (h3 : te.2 ≤ e * A)
    (hs : e + δ ≤ 1 / 4) :
    (teStep u te x).2 ≤ (teStep u te x).1 / 4 ∧
    (teStep u te x).1 ≤ τ * (A + |x|) ∧ (teStep u te x).2 ≤ (e + δ) * (A + |x|) := by
  have hx := abs_nonneg x
  have hAx := add_nonneg hA hx
  have h2' : te.1 + |x| ≤ τ * (A + |x|) :=
    (add_le_add h2 (le_mul_of_one_le_left hx hτ)).trans_eq (mul_add τ A |x|).symm
  have q1 : 2 * u * |x| ≤ e * |x| := mul_le_mul_of_nonneg_right he hx
  have q2 : u ^ 2 * (te.1 + |x|) ≤ u ^ 2 * (τ * (A + |x|)) :=
    mul_le_mul_of_nonneg_left h2' (sq_nonneg u)
  have q3 : 9 * τ * u ^ 2 * (A + |x|) ≤ δ * (A + |x|) := mul_le_mul_of_nonneg_right hδ hAx
  have h4 : (teStep u te x).2 ≤ (e + δ) * (A + |x|) := by
    simp only [teStep]
    linear_combination h3 + q1 + 9 * q2 + q3
  exact ⟨quarter_of_rate h4 hs hAx (add_le_add h1 le_rfl), h2', h4⟩

theorem foldl_teStep_closed {u δ τ : ℝ} (hτ : 1 ≤ τ) (hδ : 9 * τ * u ^ 2 ≤ δ) :
    ∀ (xs : List ℝ) (e A : ℝ) (te : ℝ × ℝ), 2 * u ≤ e → 0 ≤ A → A ≤ te.1 → te.1 ≤ τ * A →
      te.2 ≤ e * A → e + xs.length * δ ≤ 1 / 4 →
      OkList u te xs ∧ (xs.foldl (teStep u) te).1 ≤ τ * (A + sumAbs xs) ∧
      (xs.foldl (teStep u) te).2 ≤ (e + xs.length * δ) * (A + sumAbs xs) := by
  have hδ0 : 0 ≤ δ :=
    (mul_nonneg (mul_nonneg (by norm_num) (zero_le_one.trans hτ)) (sq_nonneg u)).trans hδ
  intro xs
  induction xs with
  | nil =>
    intro e A te _ _ _ h2 h3 _
    simpa [OkList] using ⟨h2, h3⟩
  | cons x xs ih =>
    intro e A te he hA h1 h2 h3 hs
    have hlen : e + ((x :: xs).length : ℝ) * δ = e + δ + xs.length * δ := by
      rw [List.length_cons, Nat.cast_succ, add_one_mul, add_comm _ δ, add_assoc]
    rw [hlen] at hs ⊢
    obtain ⟨s1, s3, s4⟩ := teStep_closed (x := x) he hτ hδ hA h1 h2 h3
      ((le_add_of_nonneg_right (mul_nonneg (Nat.cast_nonneg _) hδ0)).trans hs)
    obtain ⟨i1, i3, i4⟩ := ih (e + δ) (A + |x|) (teStep u te x)
      (he.trans (le_add_of_nonneg_right hδ0)) (add_nonneg hA (abs_nonneg x))
      (add_le_add h1 le_rfl) s3 s4 hs
    rw [List.foldl_cons, sumAbs_cons, ← add_assoc]
    exact ⟨⟨s1, i1⟩, i3, i4⟩

/-- closed-form allowance after `k` steps with budget `T` -/
noncomputable def allow (u : ℝ) (k : ℕ) (T : ℝ) : ℝ := (2 * u + 9 * k * u ^ 2) * T

theorem rate_quarter {u : ℝ} (hu : 0 ≤ u) (hu' : u ≤ 1 / 64) {k : ℕ} (hk : (k : ℝ) * u ≤ 1) :
    2 * u + 9 * k * u ^ 2 ≤ 1 / 4 := by
  have h1 : (k : ℝ) * u * u ≤ 1 * u := mul_le_mul_of_nonneg_right hk hu
  linear_combination 9 * h1 + 11 * hu'

theorem allow_quarter {u : ℝ} (hu : 0 ≤ u) (hu' : u ≤ 1 / 64) (k : ℕ) (hk : (k : ℝ) * u ≤ 1)
    (T : ℝ) (hT : 0 ≤ T) : allow u k T ≤ T / 4 :=
  quarter_of_rate le_rfl (rate_quarter hu hu' hk) hT le_rfl

/-- the sequential case of the closed form: `τ = 1`, `δ = 9u²`, rate `2u + 9nu²` -/
theorem run_inv {u : ℝ} (hu : 0 ≤ u) (hu' : u ≤ 1 / 64) (hfl : ∀ x, |fl x - x| ≤ u * |x|) :
    ∀ (xs : List ℝ) (n : ℕ) (S T : ℝ) (k : Kahan (RR fl)),
      ((n + xs.length : ℕ) : ℝ) * u ≤ 1 →
      G u S T (allow u n T) k.sum.val k.comp.val →
      G u (S + xs.sum) (T + sumAbs xs) (allow u (n + xs.length) (T + sumAbs xs))
        (k.addList (xs.map inj)).sum.val (k.addList (xs.map inj)).comp.val := by
  intro xs n S T k hk h
  have hn : 0 ≤ 9 * (n : ℝ) * u ^ 2 :=
    mul_nonneg (mul_nonneg (by norm_num) (Nat.cast_nonneg n)) (sq_nonneg u)
  have hrate : 2 * u + 9 * n * u ^ 2 + xs.length * (9 * u ^ 2)
      = 2 * u + 9 * ((n + xs.length : ℕ) : ℝ) * u ^ 2 := by push_cast; ring
  obtain ⟨ok, -, t3⟩ := foldl_teStep_closed (u := u) le_rfl (by rw [mul_one]) xs
    (2 * u + 9 * n * u ^ 2) T (T, allow u n T) (le_add_of_nonneg_right hn) h.T_nonneg le_rfl
    (one_mul T).ge le_rfl (hrate.trans_le (rate_quarter hu hu' hk))
  have := addList_inv hu hu' hfl xs S (T, allow u n T) k h ok
  rw [foldl_teStep_fst] at this
  refine g_retarget _ _ _ _ _ _ _ _ this hu ?_ le_rfl this.hT
    (allow_quarter hu hu' _ hk _ this.T_nonneg)
  rw [sub_self, abs_zero, sub_nonneg]
  exact t3.trans_eq (by rw [hrate]; rfl)

/-- the crate reads a register as `s + c` while the step maintains `s − c` -/
theorem abs_add_sub_sub (s c : ℝ) : |s + c - (s - c)| = 2 * |c| := by
  rw [add_sub_sub_cancel, ← two_mul, abs_mul, abs_two]

theorem value_sub_tracked {u : ℝ} (hfl : ∀ x, |fl x - x| ≤ u * |x|) (hu : 0 ≤ u)
    (k : Kahan (RR fl)) :
    |k.value.val - (k.sum.val - k.comp.val)| ≤
      2 * |k.comp.val| + u * (|k.sum.val| + |k.comp.val|) :=
  (trans_close ((hfl _).trans (mul_le_mul_of_nonneg_left (abs_add_le _ _) hu))
    (abs_add_sub_sub _ _).le).trans_eq (add_comm _ _)

theorem value_bound {u : ℝ} (hu : 0 ≤ u) (hu' : u ≤ 1 / 64) (hfl : ∀ x, |fl x - x| ≤ u * |x|)
    {S T E : ℝ} {k : Kahan (RR fl)} (h : G u S T E k.sum.val k.comp.val) :
    |k.value.val - S| ≤ E + 8 * u * T := by
  have hs := h.abs_s_le hu'
  have hv := value_sub_tracked hfl hu k
  have h1 := trans_close hv h.he
  have huT : 0 ≤ u * T := mul_nonneg hu h.T_nonneg
  have f : u * (u * T) ≤ 1 / 64 * (u * T) := mul_le_mul_of_nonneg_right hu' huT
  have hus : u * (|k.sum.val| + |k.comp.val|) ≤ u * (83 / 64 * T + 3 * u * T) :=
    mul_le_mul_of_nonneg_left (add_le_add hs h.hc) hu
  -- `8uT`: `2|c| ≤ 6uT` for reading `s + c`, `u(|s| + |c|) ≤ 86/64·uT` for rounding that addition
  linear_combination h1 + hus + 2 * h.hc + 3 * f + 21 / 32 * huT

theorem kahan_sequential {u : ℝ} (hu : 0 ≤ u) (hu' : u ≤ 1 / 64)
    (hfl : ∀ x, |fl x - x| ≤ u * |x|) (xs : List ℝ) (hn : (xs.length : ℝ) * u ≤ 1) :
    |((Kahan.empty : Kahan (RR fl)).addList (xs.map inj)).value.val - xs.sum| ≤
      (10 * u + 9 * (xs.length + 2) * u ^ 2) * sumAbs xs := by
  have h0 : G u 0 0 (allow u 0 0) (Kahan.empty : Kahan (RR fl)).sum.val
      (Kahan.empty : Kahan (RR fl)).comp.val := by
    rw [allow, mul_zero]; exact G.empty u
  have h := run_inv hu hu' hfl xs 0 0 0 (Kahan.empty : Kahan (RR fl)) (by simpa using hn) h0
  simp only [zero_add] at h
  have hv := value_bound hu hu' hfl h
  have g : 0 ≤ u ^ 2 * sumAbs xs := mul_nonneg (sq_nonneg u) (sumAbs_nonneg xs)
  unfold allow at hv
  -- `hv` is `(10u + 9nu²)·Σ|x|`: the `+ 2` of the statement is slack
  linear_combination hv + 18 * g

/-- right-merging the empty register is two model steps fed with `0`, from an arbitrary register
    (no invariant assumed): two readings and two drifts apart -/
theorem merge_empty_value {u : ℝ} (hu : 0 ≤ u) (hu' : u ≤ 1 / 64)
    (hfl : ∀ x, |fl x - x| ≤ u * |x|) (k : Kahan (RR fl)) :
    |(k.merge Kahan.empty).value.val - k.value.val|
      ≤ 2 * |k.comp.val| + 5 * (u * |k.sum.val|) + 7 * (u * |k.comp.val|) := by
  show |((k.add NumOps.zero).add NumOps.zero).value.val - k.value.val| ≤ _
  have hP : 0 ≤ u * |k.sum.val| := mul_nonneg hu (abs_nonneg _)
  have hQ : 0 ≤ u * |k.comp.val| := mul_nonneg hu (abs_nonneg _)
  have fP : u * (u * |k.sum.val|) ≤ 1 / 64 * (u * |k.sum.val|) :=
    mul_le_mul_of_nonneg_right hu' hP
  have fQ : u * (u * |k.comp.val|) ≤ 1 / 64 * (u * |k.comp.val|) :=
    mul_le_mul_of_nonneg_right hu' hQ
  have gP : 0 ≤ u * (u * |k.sum.val|) := mul_nonneg hu hP
  have gQ : 0 ≤ u * (u * |k.comp.val|) := mul_nonneg hu hQ
  have zero_sub_abs : ∀ c : ℝ, |(NumOps.zero : RR fl).val - c| = |c| := fun c => by
    rw [RR.zero_val, zero_sub, abs_neg]
  have V := value_sub_tracked hfl hu k
  rw [abs_sub_comm] at V
  -- first step: fed with `0` it sees the addend `−c`
  obtain ⟨A1, B1, C1⟩ := add_crude hu hu' hfl k NumOps.zero le_rfl (zero_sub_abs _).le
  generalize k.add NumOps.zero = k1 at *
  -- second step, from the bounds the first one left
  have hs1 := abs_le_of_close A1
  obtain ⟨A2, B2, C2⟩ := add_crude hu hu' hfl k1 NumOps.zero hs1 ((zero_sub_abs _).le.trans B1)
  generalize k1.add NumOps.zero = k2 at *
  have hs2 := (abs_le_of_close A2).trans (add_le_add hs1 le_rfl)
  have V2 := (value_sub_tracked hfl hu k2).trans (add_le_add
    (mul_le_mul_of_nonneg_left B2 zero_le_two) (mul_le_mul_of_nonneg_left (add_le_add hs2 B2) hu))
  simp only [RR.zero_val, add_zero] at C1 C2
  -- to first order: `2|c₂| ≤ 17/8·u(|s| + |c|)`, the two readings `u(|s| + |c|)` each, the first
  -- drift `2u|c|`; together `(4 + 1/8)·u|s| + (6 + 1/8)·u|c|`. The third-order terms are turned
  -- into second-order ones, these into first-order ones; `0.61·u|s| + 0.40·u|c|` are left over
  linear_combination trans_close (trans_close V2 C2) (trans_close C1 V)
    + 13217 / 1024 * mul_le_mul_of_nonneg_right hu' gP + 1128353 / 65536 * fP
    + 2541663 / 4194304 * hP
    + 6625 / 256 * mul_le_mul_of_nonneg_right hu' gQ + 497409 / 16384 * fQ
    + 420095 / 1048576 * hQ

theorem add_exact (k : Kahan Rex) (x : Rex) :
    (k.add x).sum.val = k.sum.val + x.val - k.comp.val ∧ (k.add x).comp.val = 0 := by
  rw [add_sum_val, add_comp_val]
  simp only [id]
  constructor <;> ring

theorem merge_exact (k r : Kahan Rex) :
    (k.merge r).sum.val = k.sum.val - k.comp.val + r.sum.val + r.comp.val ∧
    (k.merge r).comp.val = 0 := by
  rw [merge_eq]
  obtain ⟨h1, h2⟩ := add_exact k r.sum
  obtain ⟨h3, h4⟩ := add_exact (k.add r.sum) r.comp
  refine ⟨?_, h4⟩
  rw [h3, h1, h2]; ring

end KahanLemmas
end StatsCI
