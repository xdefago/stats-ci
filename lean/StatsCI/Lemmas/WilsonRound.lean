/-
  StatsCI.Lemmas.WilsonRound — forward rounding-error bounds for the proportion intervals of the
  model at the carrier `RR fl`, against the same functions at exact arithmetic `Rex = RR id` (C02R).

  Wilson: every step of centre and span is a product, a quotient, a square root or a sum of
  non-negative numbers, so relative errors compose (`Rounding.Mult`: six roundings, and six and a
  half, both below `6.6 u`); `0 ≤ centre` and `centre + |span| ≤ 1` turn that into the absolute
  `8 u` of both ends.  Whether `Interval::new` accepts the rounded pair is a comparison of two
  rounded numbers and needs `Monotone fl`: `badFl` obeys the standard model, is not monotone, and
  makes the call reject.
  Wald: `1 - p̂` cancels, so the chain is run in absolute errors (`wald_pq`, `wald_sd`, `wald_ends`).
-/
import StatsCI.Lemmas.Wilson
import StatsCI.Lemmas.Rounding
import Mathlib.Analysis.Real.Sqrt
import Mathlib.Tactic.Linarith
import Mathlib.Tactic.Ring
import Mathlib.Tactic.FieldSimp
import Mathlib.Tactic.LinearCombination
import Mathlib.Tactic.Positivity
import Mathlib.Tactic.NormNum

namespace StatsCI.WilsonRound
open Real

/-- `x'` approximates `x` with relative error at most `e` -/
def RelErr (e x' x : ℝ) : Prop := |x' - x| ≤ e * |x|

namespace RelErr
variable {e a x x' : ℝ}

theorem mono (h : RelErr a x' x) (hae : a ≤ e) : RelErr e x' x :=
  le_trans h (mul_le_mul_of_nonneg_right hae (abs_nonneg x))

theorem abs_bound (h : RelErr e x' x) (he : 0 ≤ e) {B : ℝ} (hB : |x| ≤ B) : |x' - x| ≤ e * B :=
  le_trans h (mul_le_mul_of_nonneg_left hB he)

theorem fl_exact {fl : ℝ → ℝ} {u : ℝ} (hfl : ∀ x, |fl x - x| ≤ u * |x|) (x : ℝ) :
    RelErr u (fl x) x := hfl x

end RelErr

section wilson
open StatsCI Proportion NumOps Scalar Wilson Rounding
variable {fl : ℝ → ℝ} {u v : ℝ}

theorem wilsonCentre_fl_val (n k z : ℝ) :
    (wilsonCentre (⟨n⟩ : RR fl) ⟨k⟩ ⟨z⟩).val
      = fl (fl (k + fl (fl (z * z) / fl (1 + 1))) / fl (n + fl (z * z))) := rfl

theorem wilsonSpan_fl_val (n k z : ℝ) :
    (wilsonSpan (⟨n⟩ : RR fl) ⟨k⟩ ⟨z⟩).val
      = fl (fl (z / fl (n + fl (z * z))) *
          fl (√(fl (fl (fl (k * fl (n - k)) / n)
            + fl (fl (z * z) / fl (fl (1 + 1) + fl (1 + 1))))))) := rfl

/-- the model's Wilson centre evaluated at `RR fl` (a real number); `flCentre id = mCentre` -/
noncomputable abbrev flCentre (fl : ℝ → ℝ) (n k : ℕ) (z : ℝ) : ℝ :=
  (wilsonCentre (⟨n⟩ : RR fl) ⟨k⟩ ⟨z⟩).val
/-- the model's Wilson span evaluated at `RR fl` (a real number); `flSpan id = mSpan` -/
noncomputable abbrev flSpan (fl : ℝ → ℝ) (n k : ℕ) (z : ℝ) : ℝ :=
  (wilsonSpan (⟨n⟩ : RR fl) ⟨k⟩ ⟨z⟩).val

theorem fl_zero (hfl : ∀ x, |fl x - x| ≤ u * |x|) : fl 0 = 0 := Rounding.fl_zero hfl

theorem nat_two {n : ℕ} (hnat : ∀ m : ℕ, m ≤ n → fl m = m) (h : 2 ≤ n) : fl 2 = 2 := by
  simpa using hnat 2 h
theorem nat_one {n : ℕ} (hnat : ∀ m : ℕ, m ≤ n → fl m = m) (h : 1 ≤ n) : fl 1 = 1 := by
  simpa using hnat 1 h
theorem nat_sub {n : ℕ} (hnat : ∀ m : ℕ, m ≤ n → fl m = m) {k : ℕ} (h : k ≤ n) :
    fl ((n : ℝ) - k) = (n : ℝ) - k := by
  have := hnat (n - k) (Nat.sub_le n k)
  rwa [Nat.cast_sub h] at this

theorem fl_le_one (hmono : Monotone fl) (h1 : fl 1 = 1) {x : ℝ} (hx : x ≤ 1) : fl x ≤ 1 :=
  h1 ▸ hmono hx

theorem usq_le (hu0 : 0 ≤ u) (hu : u ≤ 1 / 1024) : u * u ≤ u / 1024 := by
  linarith only [mul_le_mul_of_nonneg_left hu hu0]

theorem den_mult (hfl : ∀ x, Mult v (fl x) x) (hv : 0 ≤ v) {n : ℝ} (hn : 0 ≤ n) (z : ℝ) :
    Mult (v + v) (fl (n + fl (z * z))) (n + z * z) :=
  (((Mult.refl n).mono hv).add (hfl _) hn (mul_self_nonneg z)).fl hfl

/-- the Wilson centre, six roundings: three along the numerator (a sum of non-negative terms carries
    the larger of its two errors), two along the denominator, and the quotient, whose errors add -/
theorem centre_mult (hfl : ∀ x, Mult v (fl x) x) (hv : 0 ≤ v) (h2 : fl 2 = 2) {n k : ℝ}
    (hn : 0 ≤ n) (hk : 0 ≤ k) (z : ℝ) :
    Mult (6 * v) (wilsonCentre (⟨n⟩ : RR fl) ⟨k⟩ ⟨z⟩).val (centre n k z) := by
  have hc : centre n k z = (k + z * z / 2) / (n + z * z) := by unfold centre; ring
  rw [wilsonCentre_fl_val, one_add_one_eq_two, h2, hc]
  have hz := ((hfl (z * z)).div (Mult.refl 2)).fl hfl
  have hnum := (((Mult.refl k).mono (by linarith only [hv])).add hz hk
    (div_nonneg (mul_self_nonneg z) two_pos.le)).fl hfl
  exact ((hnum.div (den_mult hfl hv hn z)).fl hfl).mono (by linarith only [hv])

/-- the Wilson span: six and a half, the square root halving the three roundings below it -/
theorem span_mult (hfl : ∀ x, Mult v (fl x) x) (hv : 0 ≤ v) (h2 : fl 2 = 2) (h4 : fl 4 = 4)
    {n k : ℝ} (hn : 0 < n) (hk : 0 ≤ k) (hkn : k ≤ n) (hnk : fl (n - k) = n - k) (z : ℝ) :
    Mult (6.5 * v) (wilsonSpan (⟨n⟩ : RR fl) ⟨k⟩ ⟨z⟩).val (span n k z) := by
  have hs : span n k z = z / (n + z * z) * √(k * (n - k) / n + z * z / 4) := by
    unfold span; rw [sq]
  rw [wilsonSpan_fl_val, one_add_one_eq_two, h2, show (2 : ℝ) + 2 = 4 by norm_num, h4, hnk, hs]
  have hq1 := ((hfl (k * (n - k))).div (Mult.refl n)).fl hfl
  have hq2 := ((hfl (z * z)).div (Mult.refl 4)).fl hfl
  have q1 : 0 ≤ k * (n - k) / n := div_nonneg (mul_nonneg hk (sub_nonneg.mpr hkn)) hn.le
  have q2 : 0 ≤ z * z / 4 := div_nonneg (mul_self_nonneg z) four_pos.le
  have hr := (((hq1.add hq2 q1 q2).fl hfl).sqrt (add_nonneg q1 q2)).fl hfl
  have ha := ((Mult.refl z).div (den_mult hfl hv hn.le z)).fl hfl
  exact ((ha.mul hr).fl hfl).mono (by linarith only [hv])

/-- `1.01 · 6 u ≤ 6.6 u` -/
theorem flCentre_relErr (hfl : ∀ x, |fl x - x| ≤ u * |x|) (hu0 : 0 ≤ u) (hu : u ≤ 1 / 1024)
    (n k : ℕ) (hnat : ∀ m : ℕ, m ≤ n → fl m = m) (hn : 2 ≤ n) (z : ℝ) :
    RelErr (6.6 * u) (flCentre fl n k z) (centre n k z) := by
  have h := centre_mult (Mult.of_fl hfl hu0 (by linarith only [hu])) (unit_le hu0 hu).1 (nat_two hnat hn)
    (Nat.cast_nonneg n) (Nat.cast_nonneg k) z
  exact RelErr.mono (h.abs_sub_le_unit (by norm_num) (by norm_num) hu0 hu) (by linarith only [hu0])

/-- `1.01 · 6.5 u ≤ 6.6 u` -/
theorem flSpan_relErr (hfl : ∀ x, |fl x - x| ≤ u * |x|) (hu0 : 0 ≤ u) (hu : u ≤ 1 / 1024)
    (n k : ℕ) (hnat : ∀ m : ℕ, m ≤ n → fl m = m) (hn : 4 ≤ n) (hkn : k ≤ n) (z : ℝ) :
    RelErr (6.6 * u) (flSpan fl n k z) (span n k z) := by
  have h := span_mult (Mult.of_fl hfl hu0 (by linarith only [hu])) (unit_le hu0 hu).1 (nat_two hnat (by omega))
    (by simpa using hnat 4 hn) (Nat.cast_pos.mpr (by omega)) (Nat.cast_nonneg k)
    (Nat.cast_le.mpr hkn) (nat_sub hnat hkn) z
  exact RelErr.mono (h.abs_sub_le_unit (by norm_num) (by norm_num) hu0 hu) (by linarith only [hu0])

/-- from a relative error `ε` of centre and span to the absolute error of both rounded bounds:
    `0 ≤ centre` and `centre + |span| ≤ 1` give `|c' ∓ s' - (c ∓ s)| ≤ ε (c + |s|) ≤ ε`, and the
    last rounding adds `u (1 + ε)` -/
theorem bound_err (hfl : ∀ x, |fl x - x| ≤ u * |x|) (hu0 : 0 ≤ u) {ε δ c c' s s' : ℝ}
    (hε : 0 ≤ ε) (hδ : ε + u * (1 + ε) ≤ δ) (hc : RelErr ε c' c) (hs : RelErr ε s' s) (c0 : 0 ≤ c)
    (hcs : c + |s| ≤ 1) :
    |fl (c' - s') - (c - s)| ≤ δ ∧ |fl (c' + s') - (c + s)| ≤ δ := by
  unfold RelErr at hc hs
  rw [abs_of_nonneg c0] at hc
  have hsum : |c' - c| + |s' - s| ≤ ε := by
    linarith only [hc, hs, mul_le_mul_of_nonneg_left hcs hε]
  have hm : |c - s| ≤ 1 := (abs_sub c s).trans (by rwa [abs_of_nonneg c0])
  have hp : |c + s| ≤ 1 := (abs_add_le c s).trans (by rwa [abs_of_nonneg c0])
  constructor
  · refine (fl_close hfl hu0 ?_ hm).trans hδ
    rw [sub_sub_sub_comm]
    exact (abs_sub _ _).trans hsum
  · refine (fl_close hfl hu0 ?_ hp).trans hδ
    rw [add_sub_add_comm]
    exact (abs_add_le _ _).trans hsum

theorem flSpan_nonneg (hfl : ∀ x, |fl x - x| ≤ u * |x|) (hu1 : u ≤ 1) (n k : ℕ) {z : ℝ}
    (hz : 0 ≤ z) : 0 ≤ flSpan fl n k z := by
  have nn := @Rounding.fl_nonneg fl u hfl hu1
  rw [flSpan, wilsonSpan_fl_val]
  apply nn
  apply mul_nonneg
  · apply nn
    apply div_nonneg hz
    apply nn
    exact add_nonneg (Nat.cast_nonneg n) (nn (mul_self_nonneg z))
  · exact nn (Real.sqrt_nonneg _)

theorem flCentre_nonneg (hfl : ∀ x, |fl x - x| ≤ u * |x|) (hu1 : u ≤ 1) (n k : ℕ) (z : ℝ) :
    0 ≤ flCentre fl n k z := by
  have nn := @Rounding.fl_nonneg fl u hfl hu1
  rw [flCentre, wilsonCentre_fl_val]
  apply nn
  apply div_nonneg
  · apply nn
    apply add_nonneg (Nat.cast_nonneg k)
    apply nn
    exact div_nonneg (nn (mul_self_nonneg z)) (nn (by norm_num))
  · apply nn
    exact add_nonneg (Nat.cast_nonneg n) (nn (mul_self_nonneg z))

theorem flCentre_le_one (hfl : ∀ x, |fl x - x| ≤ u * |x|) (hu1 : u ≤ 1)
    (hmono : Monotone fl) (n k : ℕ) (hnat : ∀ m : ℕ, m ≤ n → fl m = m) (hn : 2 ≤ n)
    (hkn : k ≤ n) (z : ℝ) : flCentre fl n k z ≤ 1 := by
  have nn := @Rounding.fl_nonneg fl u hfl hu1
  rw [flCentre, wilsonCentre_fl_val, one_add_one_eq_two, nat_two hnat hn]
  have hzs : 0 ≤ fl (z * z) := nn (mul_self_nonneg z)
  have hhalf : fl (fl (z * z) / 2) ≤ fl (z * z) := by
    have h1 := fl_le hfl ((div_nonneg hzs two_pos.le))
    have h2 : u * (fl (z * z) / 2) ≤ 1 * (fl (z * z) / 2) :=
      mul_le_mul_of_nonneg_right hu1 ((div_nonneg hzs two_pos.le))
    linear_combination h1 + h2
  have hkn' : (k : ℝ) ≤ n := Nat.cast_le.mpr hkn
  have hle : fl (k + fl (fl (z * z) / 2)) ≤ fl (n + fl (z * z)) := hmono (by linarith only [hkn', hhalf])
  have hden : 0 ≤ fl (n + fl (z * z)) := nn (add_nonneg (Nat.cast_nonneg n) hzs)
  exact fl_le_one hmono (nat_one hnat (by omega)) (div_le_one_of_le₀ hle hden)

theorem ofNat_exact {n : ℕ} (hnat : ∀ m : ℕ, m ≤ n → fl m = m) {m : ℕ} (h : m ≤ n) :
    (Scalar.ofNat m : RR fl) = ⟨(m : ℝ)⟩ := RR.ext' (hnat m h)

theorem zValue_constCrit (z : ℝ) (conf : Confidence (RR fl)) (h : probOk conf.quantile = true) :
    zValue (constCrit z) conf = .ok ⟨z⟩ :=
  zValue_eq _ conf h

theorem probOk_quantile_fl (hfl : ∀ x, |fl x - x| ≤ u * |x|) (hu1 : u ≤ 1) (hmono : Monotone fl)
    (h1 : fl 1 = 1) (h2 : fl 2 = 2) (conf : Confidence (RR fl)) (l0 : 0 < conf.level.val)
    (l1 : conf.level.val < 1) : probOk conf.quantile = true := by
  have nn := @Rounding.fl_nonneg fl u hfl hu1
  rw [RR.probOk_iff]
  cases conf with
  | twoSided l =>
    simp only [Confidence.level] at l0 l1
    simp only [Confidence.quantile, RR.one_val, RR.sub_val, RR.div_val, RR.add_val,
      one_add_one_eq_two, h2]
    have a0 : 0 ≤ fl (1 - l.val) := nn (by linarith only [l1])
    have a1 : fl (1 - l.val) ≤ 1 := fl_le_one hmono h1 (by linarith only [l0])
    have b0 : 0 ≤ fl (fl (1 - l.val) / 2) := nn (by linarith only [a0])
    have b1 : fl (fl (1 - l.val) / 2) ≤ 1 := fl_le_one hmono h1 (by linarith only [a1])
    exact ⟨nn (by linarith only [b1]), fl_le_one hmono h1 (by linarith only [b0])⟩
  | upper l | lower l => exact ⟨l0.le, l1.le⟩

theorem centre_span_facts (n k : ℕ) (hn : 0 < n) (hkn : k ≤ n) (z : ℝ) :
    0 ≤ centre n k z ∧ centre n k z ≤ 1 ∧ centre n k z + |span n k z| ≤ 1 ∧
      |span n k z| ≤ 1 / 2 := by
  obtain ⟨hn', hk0, hkn'⟩ := cast_dom hn hkn
  have a := abs_span_le_centre n k z hn' hk0 hkn'
  have b := centre_add_abs_span_le_one n k z hn' hk0 hkn'
  have c := abs_nonneg (span (n : ℝ) k z)
  exact ⟨c.trans a, by linarith only [b, c], b, by linarith only [a, b]⟩

/-- same constructor, corresponding bounds within `ε` (exact interval first) -/
def Close (ε : ℝ) : Interval Rex → Interval (RR fl) → Prop
  | .twoSided a b, .twoSided a' b' => |a'.val - a.val| ≤ ε ∧ |b'.val - b.val| ≤ ε
  | .upper a, .upper a' => |a'.val - a.val| ≤ ε
  | .lower b, .lower b' => |b'.val - b.val| ≤ ε
  | _, _ => False

/-- both rounded ends on the domain, before the clamp (`wEnds_close` carries the bound through it):
    `bound_err` at `ε = 6.6 u`, and `6.6 u + u (1 + 6.6 u) ≤ 8 u` -/
theorem ends_close (hfl : ∀ x, |fl x - x| ≤ u * |x|) (hu0 : 0 ≤ u) (hu : u ≤ 1 / 1024)
    (n k : ℕ) (hnat : ∀ m : ℕ, m ≤ n → fl m = m) (hn : 4 ≤ n) (hkn : k ≤ n) (z : ℝ) :
    |fl (flCentre fl n k z - flSpan fl n k z) - (centre n k z - span n k z)| ≤ 8 * u ∧
    |fl (flCentre fl n k z + flSpan fl n k z) - (centre n k z + span n k z)| ≤ 8 * u := by
  obtain ⟨c0, _, cs, _⟩ := centre_span_facts n k (by omega) hkn z
  have huu := usq_le hu0 hu
  exact bound_err hfl hu0 (by positivity) (by linarith only [huu, hu0])
    (flCentre_relErr hfl hu0 hu n k hnat (by omega) z) (flSpan_relErr hfl hu0 hu n k hnat hn hkn z)
    c0 cs

theorem wfin_ordered_exact (kd : Kind) (n k : ℕ) (hn : 0 < n) (hkn : k ≤ n) {z : ℝ} (hz : 0 ≤ z) :
    wLo id kd (centre n k z) (span n k z) ≤ wHi id kd (centre n k z) (span n k z) := by
  obtain ⟨_, b2, b3, _⟩ := bounds_unit n k hn hkn z
  have hs : 0 ≤ span (n : ℝ) k z := span_nonneg _ _ _ (Nat.cast_pos.mpr hn) hz
  refine wLo_le_wHi kd ?_ b2 b3
  simp only [id]
  linarith only [hs]

theorem wfin_ordered_fl (hfl : ∀ x, |fl x - x| ≤ u * |x|) (hu1 : u ≤ 1)
    (hmono : Monotone fl) (kd : Kind) (n k : ℕ) (hnat : ∀ m : ℕ, m ≤ n → fl m = m) (hn : 2 ≤ n)
    (hkn : k ≤ n) {z : ℝ} (hz : 0 ≤ z) :
    wLo fl kd (flCentre fl n k z) (flSpan fl n k z)
      ≤ wHi fl kd (flCentre fl n k z) (flSpan fl n k z) := by
  have hs := flSpan_nonneg hfl hu1 n k hz
  have hc0 := flCentre_nonneg hfl hu1 n k z
  have hc1 := flCentre_le_one hfl hu1 hmono n k hnat hn hkn z
  exact wLo_le_wHi kd (hmono (by linarith only [hs]))
    (fl_le_one hmono (nat_one hnat (by omega)) (by linarith only [hc1, hs]))
    (fl_nonneg hfl hu1 (by linarith only [hc0, hs]))

theorem ciWilson_eq_fl (crit : Crit (RR fl)) (conf : Confidence (RR fl)) (n k : ℕ)
    (hnat : ∀ m : ℕ, m ≤ n → fl m = m) (hk : 2 ≤ k) (hkn : k + 2 ≤ n) (z : ℝ)
    (hz : zValue crit conf = .ok ⟨z⟩) :
    ciWilson crit conf n k =
      if wLo fl conf.kind (flCentre fl n k z) (flSpan fl n k z)
          ≤ wHi fl conf.kind (flCentre fl n k z) (flSpan fl n k z) then
        .ok (.twoSided ⟨wLo fl conf.kind (flCentre fl n k z) (flSpan fl n k z)⟩
                       ⟨wHi fl conf.kind (flCentre fl n k z) (flSpan fl n k z)⟩)
      else .err (.interval .invalidBounds) := by
  obtain ⟨hq, hzc⟩ := zValue_eq_ok_iff.mp hz
  rw [ciWilson_dom crit conf n k hk hkn, if_pos hq, ← hzc, ofNat_exact hnat le_rfl,
    ofNat_exact hnat (by omega : k ≤ n), finishWilson_eq_fl]

end wilson

section bad
open StatsCI Proportion NumOps Scalar Wilson

/-- exact everywhere except on the open interval `(1/2 - 1/8000, 1/2)`, which is inflated by the
    full relative amount `2⁻¹⁰`: obeys `|fl x - x| ≤ 2⁻¹⁰ |x|`, exact on every natural number,
    **not** monotone (`badFl (1/2 - 1/16000) > badFl (1/2 + 1/16000)`) -/
noncomputable def badFl (x : ℝ) : ℝ :=
  if 1 / 2 - 1 / 8000 < x ∧ x < 1 / 2 then x * (1 + 1 / 1024) else x

theorem badFl_out {x : ℝ} (h : x ≤ 1 / 2 - 1 / 8000 ∨ 1 / 2 ≤ x) : badFl x = x :=
  if_neg fun ⟨a, b⟩ => h.elim (not_le.mpr a) (not_le.mpr b)

theorem badFl_in {x : ℝ} (h1 : 1 / 2 - 1 / 8000 < x) (h2 : x < 1 / 2) :
    badFl x = x * (1 + 1 / 1024) :=
  if_pos ⟨h1, h2⟩

theorem badFl_big {x : ℝ} (h : 1 / 2 ≤ x) : badFl x = x := badFl_out (Or.inr h)

theorem badFl_small {x : ℝ} (h : x ≤ 1 / 4) : badFl x = x :=
  badFl_out (Or.inl (h.trans (by norm_num)))

theorem badFl_err (x : ℝ) : |badFl x - x| ≤ 1 / 1024 * |x| := by
  by_cases h : 1 / 2 - 1 / 8000 < x ∧ x < 1 / 2
  · rw [badFl_in h.1 h.2]
    have e : x * (1 + 1 / 1024) - x = 1 / 1024 * x := by ring
    rw [e, abs_mul]
    simp
  · simp only [badFl, h, if_false, sub_self, abs_zero]
    positivity

theorem badFl_nat (m : ℕ) : badFl m = m := by
  apply badFl_out
  rcases Nat.eq_zero_or_pos m with h | h
  · left; subst h; norm_num
  · right
    exact le_trans (by norm_num) (Nat.one_le_cast.mpr h)

theorem badFl_not_monotone : ¬ Monotone badFl := by
  intro h
  have h1 := h (show (1 / 2 - 1 / 16000 : ℝ) ≤ 1 / 2 + 1 / 16000 by norm_num)
  rw [badFl_in (by norm_num) (by norm_num), badFl_out (Or.inr (by norm_num))] at h1
  norm_num at h1

/-- at `RR badFl` the two-sided level `1/2` asks for the probability `3/4`, no operand of which
    `badFl` moves -/
theorem badFl_zValue (z : ℝ) :
    zValue (constCrit z : Crit (RR badFl)) (.twoSided ⟨1 / 2⟩) = .ok ⟨z⟩ := by
  apply zValue_constCrit
  rw [RR.probOk_iff]
  simp only [Confidence.quantile, RR.one_val, RR.sub_val, RR.div_val, RR.add_val]
  norm_num [badFl_big, badFl_small]

/-- the witness: `n = 4`, `k = 2`, a two-sided request at level `1/2` answered by `z = 1/4096`.
    In exact arithmetic the interval is `[1/2 - s, 1/2 + s]` with `0 < s < 1/8000`; at `RR badFl`
    every intermediate value is untouched, the lower bound `1/2 - s` is inflated above the upper
    bound `1/2 + s`, the clamp into `[0, 1]` moves neither of them (both lie strictly between `0`
    and `1`), and `Interval::new` rejects the pair. -/
theorem badFl_ciWilson :
    ciWilson (constCrit (1 / 4096) : Crit (RR badFl)) (.twoSided ⟨1 / 2⟩) 4 2
      = .err (.interval .invalidBounds) := by
  rw [ciWilson_eq_fl _ _ 4 2 (fun m _ => badFl_nat m) (by omega) (by omega) _ (badFl_zValue _)]
  -- the centre is exactly 1/2
  have hc : flCentre badFl 4 2 (1 / 4096) = 1 / 2 := by
    rw [flCentre, wilsonCentre_fl_val]
    norm_num [badFl_big, badFl_small]
  -- the span is t = a · √R with a = z / (4 + z²), R = 1 + z²/4, and 0 < t ≤ 2 a ≤ 1/8192
  have r1 : 1 ≤ √(1 + 1 / 67108864 : ℝ) := by
    rw [Real.one_le_sqrt]; norm_num
  have r2 : √(1 + 1 / 67108864 : ℝ) ≤ 2 := by
    rw [Real.sqrt_le_iff]; norm_num
  have ht0 : (0 : ℝ) < 1 / 4096 / (4 + 1 / 16777216) * √(1 + 1 / 67108864) :=
    mul_pos (by norm_num) (one_pos.trans_le r1)
  have ht1 : (1 / 4096 / (4 + 1 / 16777216) : ℝ) * √(1 + 1 / 67108864) ≤ 1 / 8192 :=
    (mul_le_mul_of_nonneg_left r2 (by norm_num)).trans (by norm_num)
  have hs : flSpan badFl 4 2 (1 / 4096)
      = (1 / 4096 / (4 + 1 / 16777216)) * √(1 + 1 / 67108864) := by
    rw [flSpan, wilsonSpan_fl_val]
    have hin : badFl (badFl (badFl (((2 : ℕ) : ℝ) * badFl (((4 : ℕ) : ℝ) - ((2 : ℕ) : ℝ)))
          / ((4 : ℕ) : ℝ))
        + badFl (badFl (1 / 4096 * (1 / 4096)) / badFl (badFl (1 + 1) + badFl (1 + 1))))
        = 1 + 1 / 67108864 := by
      norm_num [badFl_big, badFl_small]
    have ha : badFl (1 / 4096 / badFl (((4 : ℕ) : ℝ) + badFl (1 / 4096 * (1 / 4096))))
        = 1 / 4096 / (4 + 1 / 16777216) := by
      norm_num [badFl_big, badFl_small]
    rw [hin, ha, badFl_big (le_trans (by norm_num) r1), badFl_small (ht1.trans (by norm_num))]
  rw [hc, hs]
  generalize (1 / 4096 / (4 + 1 / 16777216) : ℝ) * √(1 + 1 / 67108864) = t at ht0 ht1
  have hlo : badFl (1 / 2 - t) = (1 / 2 - t) * (1 + 1 / 1024) :=
    badFl_in (sub_lt_sub_left (ht1.trans_lt (by norm_num)) _) (sub_lt_self _ ht0)
  have hhi : badFl (1 / 2 + t) = 1 / 2 + t := badFl_big (le_add_of_nonneg_right ht0.le)
  have hlt : ¬ (wLo badFl (Confidence.kind (.twoSided (⟨1 / 2⟩ : RR badFl))) (1 / 2) t
      ≤ wHi badFl (Confidence.kind (.twoSided (⟨1 / 2⟩ : RR badFl))) (1 / 2) t) := by
    simp only [Confidence.kind, wLo, wHi, hlo, hhi]
    intro h
    have h2 := ((le_max_left ((1 / 2 - t) * (1 + 1 / 1024)) 0).trans h).trans (min_le_left _ _)
    have : (1 : ℝ) / 2048 ≤ (2 + 1 / 1024) / 8192 := by
      linear_combination h2 + (2 + 1 / 1024) * ht1
    norm_num at this
  rw [if_neg hlt]

end bad

section wald
open StatsCI Proportion NumOps Scalar Wilson Rounding
variable {fl : ℝ → ℝ} {u : ℝ}

/-- the rounded `p̂ (1 - p̂)`: three roundings (`fl p`, the difference, the product), absolute error
    `1.52 u` on `[0, 1]` -/
theorem wald_pq (hfl : ∀ x, |fl x - x| ≤ u * |x|) (hu0 : 0 ≤ u) (hu : u ≤ 1 / 1024)
    {p : ℝ} (hp0 : 0 ≤ p) (hp1 : p ≤ 1) :
    |fl p - p| ≤ u ∧ |fl (fl p * fl (1 - fl p)) - p * (1 - p)| ≤ 1.52 * u := by
  have hq0 : 0 ≤ 1 - p := sub_nonneg.mpr hp1
  have hpq0 : 0 ≤ p * (1 - p) := mul_nonneg hp0 hq0
  have hpq4 : p * (1 - p) ≤ 1 / 4 := by linear_combination sq_nonneg (p - 1 / 2)
  have huu := usq_le hu0 hu
  have hup : u * p ≤ u := mul_le_of_le_one_right hu0 hp1
  have huup : u * u * p ≤ u * u := mul_le_of_le_one_right (mul_nonneg hu0 hu0) hp1
  have hupq : u * (p * (1 - p)) ≤ u * (1 / 4) := mul_le_mul_of_nonneg_left hpq4 hu0
  -- the steps after `fl p` in numbers (rounded difference, product, its rounding), second-order
  -- terms absorbed
  have n1 : 0 + u * p + u * (1 - p + (0 + u * p)) ≤ 1.001 * u := by
    linear_combination huup + huu + (0.001 - 1 / 1024) * hu0
  have n2 : u * p * (1 - p + 1.001 * u) + p * (1.001 * u) ≤ 1.26 * u := by
    linear_combination hupq + 1.001 * huup + 1.001 * huu + 1.001 * hup
      + (1.26 - 0.25 - 1.001 - 1.001 / 1024) * hu0
  have n3 : 1.26 * u + u * (1 / 4 + 1.26 * u) ≤ 1.52 * u := by
    linear_combination 1.26 * huu + (1.52 - 1.51 - 1.26 / 1024) * hu0
  have hP : |fl p - p| ≤ u * p := by
    have := hfl p
    rwa [abs_of_nonneg hp0] at this
  have hQ := (fl_close hfl hu0 (sub_close (show |(1 : ℝ) - 1| ≤ 0 by simp) hP)
    (abs_of_nonneg hq0).le).trans n1
  have hT := mul_close hP hQ
  rw [abs_of_nonneg hq0, abs_of_nonneg hp0] at hT
  exact ⟨hP.trans hup, (fl_close hfl hu0 (hT.trans n2)
    (by rwa [abs_of_nonneg hpq0] : |p * (1 - p)| ≤ 1 / 4)).trans n3⟩

/-- the rounded standard error `√(T/N)` from an estimate `T` of `x = p (1 - p)`.  Errors are
    carried on the scale `N`: `|fl (T/N) - x/N| N ≤ 1.78 u`; `|√V - √y| √y ≤ |V - y|` and
    `(√(x/N) N)² = N x ≥ 5 > 2.2²` turn that into `1.78 u / 2.2 ≤ 0.81 u`; `x/N ≤ 1/80` bounds the
    standard error itself by `0.112` -/
theorem wald_sd (hfl : ∀ x, |fl x - x| ≤ u * |x|) (hu0 : 0 ≤ u) (hu : u ≤ 1 / 1024)
    {x N T : ℝ} (hx4 : x ≤ 1 / 4) (hN : 20 ≤ N) (hNx : 5 ≤ N * x) (hT : |T - x| ≤ 1.52 * u) :
    |fl (√(fl (T / N))) - √(x / N)| ≤ 0.93 * u ∧ 0 ≤ √(x / N) ∧ √(x / N) ≤ 0.112 := by
  have huu := usq_le hu0 hu
  have hN0 : 0 < N := lt_of_lt_of_le (by norm_num) hN
  have hx0 : 0 < x := pos_of_mul_pos_right (lt_of_lt_of_le (by norm_num) hNx) hN0.le
  have hxN0 : 0 < x / N := div_pos hx0 hN0
  have hsx : 2.2 ≤ √(x / N) * N := by
    have e : N * x = x / N * N ^ 2 := by field_simp
    calc (2.2 : ℝ) ≤ √(N * x) := (Real.le_sqrt' (by norm_num)).mpr (le_trans (by norm_num) hNx)
      _ = √(x / N) * N := by rw [e, Real.sqrt_mul hxN0.le, Real.sqrt_sq hN0.le]
  have hsd : √(x / N) ≤ 0.112 := by
    rw [Real.sqrt_le_iff, div_le_iff₀ hN0]
    exact ⟨by norm_num, by linear_combination hx4 + 0.112 ^ 2 * hN⟩
  have hsd0 : 0 ≤ √(x / N) := Real.sqrt_nonneg _
  have hV0 : |T / N - x / N| * N ≤ 1.52 * u := by
    rw [← sub_div, abs_div, abs_of_pos hN0, div_mul_cancel₀ _ hN0.ne']
    exact hT
  have hxN : |x / N| * N ≤ 1 / 4 := by
    rw [abs_div, abs_of_pos hN0, div_mul_cancel₀ _ hN0.ne', abs_of_pos hx0]
    exact hx4
  have hV : |fl (T / N) - x / N| * N ≤ 1.78 * u := by
    have h1 := mul_le_mul_of_nonneg_right
      (fl_close hfl hu0 (le_refl |T / N - x / N|) (le_refl |x / N|)) hN0.le
    have h2 : u * (|x / N| * N) ≤ u * (1 / 4) := mul_le_mul_of_nonneg_left hxN hu0
    have h3 : u * (|T / N - x / N| * N) ≤ u * (1.52 * u) := mul_le_mul_of_nonneg_left hV0 hu0
    linear_combination h1 + hV0 + h2 + h3 + 1.52 * huu + (1.78 - 1.77 - 1.52 / 1024) * hu0
  generalize fl (T / N) = V at hV ⊢
  have hS0 : |√V - √(x / N)| ≤ 0.81 * u := by
    have h2 := mul_le_mul_of_nonneg_right (abs_sqrt_sub_mul_le (a := V) hxN0.le) hN0.le
    have h3 : |√V - √(x / N)| * 2.2 ≤ |√V - √(x / N)| * (√(x / N) * N) :=
      mul_le_mul_of_nonneg_left hsx (abs_nonneg _)
    linear_combination (1 / 2.2) * (h3 + h2 + hV) + (0.81 - 1.78 / 2.2) * hu0
  have h1 := fl_close hfl hu0 hS0 (show |√(x / N)| ≤ 0.112 by rw [abs_of_nonneg hsd0]; exact hsd)
  exact ⟨by linear_combination h1 + 0.81 * huu + (0.93 - 0.922 - 0.81 / 1024) * hu0, hsd0, hsd⟩

/-- the last two roundings `fl (P ∓ fl (z S))`, from `|P - p| ≤ u`, `|S - sd| ≤ 0.93 u` -/
theorem wald_ends (hfl : ∀ x, |fl x - x| ≤ u * |x|) (hu0 : 0 ≤ u) (hu : u ≤ 1 / 1024)
    {p P sd S : ℝ} (hp0 : 0 ≤ p) (hp1 : p ≤ 1) (hP : |P - p| ≤ u) (hsd0 : 0 ≤ sd)
    (hsd : sd ≤ 0.112) (hS : |S - sd| ≤ 0.93 * u) (z : ℝ) :
    |fl (z * S) - z * sd| ≤ 1.05 * |z| * u ∧
    |fl (P - fl (z * S)) - (p - z * sd)| ≤ (2.01 + 1.2 * |z|) * u ∧
    |fl (P + fl (z * S)) - (p + z * sd)| ≤ (2.01 + 1.2 * |z|) * u := by
  have hZ0 : 0 ≤ |z| := abs_nonneg z
  have hZu : 0 ≤ |z| * u := mul_nonneg hZ0 hu0
  have hZuu : |z| * (u * u) ≤ |z| * (u / 1024) := mul_le_mul_of_nonneg_left (usq_le hu0 hu) hZ0
  have huu := usq_le hu0 hu
  -- the two roundings `fl (z S)` and `fl (P ∓ W)` in numbers, second-order terms absorbed
  have n1 : |z| * (0.93 * u) + u * (0.112 * |z| + |z| * (0.93 * u)) ≤ 1.05 * |z| * u := by
    linear_combination 0.93 * hZuu + (1.05 - 1.042 - 0.93 / 1024) * hZu
  have n2 : u + 1.05 * |z| * u + u * (1 + 0.112 * |z| + (u + 1.05 * |z| * u))
      ≤ (2.01 + 1.2 * |z|) * u := by
    linear_combination huu + 1.05 * hZuu + (0.01 - 1 / 1024) * hu0
      + (1.2 - 1.162 - 1.05 / 1024) * hZu
  have hw : |z * sd| ≤ 0.112 * |z| := by
    rw [abs_mul, abs_of_nonneg hsd0, mul_comm]
    exact mul_le_mul_of_nonneg_right hsd hZ0
  have hW := (fl_close hfl hu0 (mul_left_close z hS) hw).trans n1
  have hpabs : |p| ≤ 1 := by rwa [abs_of_nonneg hp0]
  exact ⟨hW,
    (fl_close hfl hu0 (sub_close hP hW) ((abs_sub _ _).trans (add_le_add hpabs hw))).trans n2,
    (fl_close hfl hu0 (add_close hP hW) ((abs_add_le _ _).trans (add_le_add hpabs hw))).trans n2⟩

/-- the model's Wald centre `p̂ = k/n` at `RR fl` -/
noncomputable abbrev flWaldP (fl : ℝ → ℝ) (n k : ℕ) : ℝ := fl ((k : ℝ) / n)
/-- the model's Wald span `z · √(p̂ q̂ / n)` at `RR fl` -/
noncomputable abbrev flWaldW (fl : ℝ → ℝ) (n k : ℕ) (z : ℝ) : ℝ :=
  fl (z * fl (√(fl (fl (fl ((k : ℝ) / n) * fl (1 - fl ((k : ℝ) / n))) / n))))

theorem flWaldP_id (n k : ℕ) : flWaldP id n k = (k : ℝ) / n := rfl
theorem flWaldW_id (n k : ℕ) (z : ℝ) : flWaldW id n k z = z * waldSd n k := rfl

theorem ciZNormal_eq_fl (crit : Crit (RR fl)) (conf : Confidence (RR fl)) (n k : ℕ)
    (hnat : ∀ m : ℕ, m ≤ n → fl m = m) (hk : 10 ≤ k) (hkn : k + 10 ≤ n) (z : ℝ)
    (hz : zValue crit conf = .ok ⟨z⟩) :
    ciZNormal crit conf n k =
      if finLo fl conf.kind (flWaldP fl n k) (flWaldW fl n k z)
          ≤ finHi fl conf.kind (flWaldP fl n k) (flWaldW fl n k z) then
        .ok (.twoSided ⟨finLo fl conf.kind (flWaldP fl n k) (flWaldW fl n k z)⟩
                       ⟨finHi fl conf.kind (flWaldP fl n k) (flWaldW fl n k z)⟩)
      else .err (.interval .invalidBounds) := by
  obtain ⟨hq, hzc⟩ := zValue_eq_ok_iff.mp hz
  rw [Proportion.ciZNormal_eq, if_neg (by omega), if_neg (by omega), if_neg (by omega), if_pos hq,
    ← hzc, finish_eq_fl]
  simp only [Proportion.waldSd, Proportion.waldQ, Proportion.waldP, ofNat_exact hnat le_rfl,
    ofNat_exact hnat (by omega : k ≤ n)]
  rfl

theorem wald_facts (n k : ℕ) (hk : 10 ≤ k) (hkn : k + 10 ≤ n) :
    0 ≤ (k : ℝ) / n ∧ (k : ℝ) / n ≤ 1 ∧ (20 : ℝ) ≤ n ∧
      5 ≤ (n : ℝ) * ((k : ℝ) / n * (1 - (k : ℝ) / n)) := by
  have hk' : (10 : ℝ) ≤ k := by exact_mod_cast hk
  have hkn' : (k : ℝ) + 10 ≤ n := by exact_mod_cast hkn
  have hn0 : (0 : ℝ) < n := lt_of_lt_of_le (by positivity) hkn'
  refine ⟨by positivity, (div_le_one hn0).mpr ((le_add_of_nonneg_right (by norm_num)).trans hkn'),
    by linear_combination hk' + hkn', ?_⟩
  rw [one_sub_div hn0.ne', ← mul_assoc, mul_div_cancel₀ _ hn0.ne', ← mul_div_assoc,
    le_div_iff₀ hn0]
  linarith only [mul_nonneg (sub_nonneg.mpr hk') (show (0 : ℝ) ≤ n - k - 10 by linarith only [hkn']),
    hk', hkn']

theorem wald_err (hfl : ∀ x, |fl x - x| ≤ u * |x|) (hu0 : 0 ≤ u) (hu : u ≤ 1 / 1024)
    (n k : ℕ) (hk : 10 ≤ k) (hkn : k + 10 ≤ n) (z : ℝ) :
    |flWaldP fl n k - (k : ℝ) / n| ≤ u ∧
    |flWaldW fl n k z - z * waldSd n k| ≤ 1.05 * |z| * u ∧
    |fl (flWaldP fl n k - flWaldW fl n k z) - ((k : ℝ) / n - z * waldSd n k)|
      ≤ (2.01 + 1.2 * |z|) * u ∧
    |fl (flWaldP fl n k + flWaldW fl n k z) - ((k : ℝ) / n + z * waldSd n k)|
      ≤ (2.01 + 1.2 * |z|) * u := by
  obtain ⟨p0, p1, hN, hpq⟩ := wald_facts n k hk hkn
  obtain ⟨hP, hT⟩ := wald_pq hfl hu0 hu p0 p1
  have hx4 : (k : ℝ) / n * (1 - (k : ℝ) / n) ≤ 1 / 4 := by
    linear_combination sq_nonneg ((k : ℝ) / n - 1 / 2)
  obtain ⟨hS, hsd0, hsd⟩ := wald_sd hfl hu0 hu hx4 hN hpq hT
  exact ⟨hP, wald_ends hfl hu0 hu p0 p1 hP hsd0 hsd hS z⟩

theorem wald_fin_close (hfl : ∀ x, |fl x - x| ≤ u * |x|) (hu0 : 0 ≤ u) (hu : u ≤ 1 / 1024)
    (kd : Kind) (n k : ℕ) (hk : 10 ≤ k) (hkn : k + 10 ≤ n) (z : ℝ) :
    |finLo fl kd (flWaldP fl n k) (flWaldW fl n k z)
        - finLo id kd ((k : ℝ) / n) (z * waldSd n k)| ≤ (2.01 + 1.2 * |z|) * u ∧
    |finHi fl kd (flWaldP fl n k) (flWaldW fl n k z)
        - finHi id kd ((k : ℝ) / n) (z * waldSd n k)| ≤ (2.01 + 1.2 * |z|) * u := by
  obtain ⟨_, _, h1, h2⟩ := wald_err hfl hu0 hu n k hk hkn z
  exact finEnds_close kd h1 h2

theorem wald_ordered_exact (kd : Kind) (n k : ℕ) (hk : 10 ≤ k) (hkn : k + 10 ≤ n) {z : ℝ}
    (hz : 0 ≤ z) :
    finLo id kd ((k : ℝ) / n) (z * waldSd n k) ≤ finHi id kd ((k : ℝ) / n) (z * waldSd n k) :=
  fin_ordered_of_nonneg kd (wald_facts n k hk hkn).1 (wald_facts n k hk hkn).2.1
    (mul_nonneg hz (Real.sqrt_nonneg _))

theorem wald_ordered_fl (hfl : ∀ x, |fl x - x| ≤ u * |x|) (hu1 : u ≤ 1) (hmono : Monotone fl)
    (kd : Kind) (n k : ℕ) (hnat : ∀ m : ℕ, m ≤ n → fl m = m) (hk : 10 ≤ k) (hkn : k + 10 ≤ n)
    {z : ℝ} (hz : 0 ≤ z) :
    finLo fl kd (flWaldP fl n k) (flWaldW fl n k z)
      ≤ finHi fl kd (flWaldP fl n k) (flWaldW fl n k z) := by
  obtain ⟨a, b, _, _⟩ := wald_facts n k hk hkn
  have nn := @Rounding.fl_nonneg fl u hfl hu1
  have h1 := nat_one hnat (show 1 ≤ n by omega)
  have hW : 0 ≤ flWaldW fl n k z := nn (mul_nonneg hz (nn (Real.sqrt_nonneg _)))
  have hP0 : 0 ≤ flWaldP fl n k := nn a
  have hP1 : flWaldP fl n k ≤ 1 := fl_le_one hmono h1 b
  cases kd <;> simp only [finLo, finHi]
  · exact hmono (by linarith only [hW])
  · exact fl_le_one hmono h1 (by linarith only [hP1, hW])
  · exact nn (by linarith only [hP0, hW])

end wald

end StatsCI.WilsonRound
