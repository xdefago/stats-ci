/-
  StatsCI.Lemmas.WilsonMono — the ends `lowerR`, `upperR` of the Wilson interval as the model
  computes them at exact real arithmetic (`Rex = RR id`), read through `Wilson.centre ∓ Wilson.span`
  (`lowerR_eq_sub`, `upperR_eq_add`): bounds, monotonicity in `k` and in `z`, mirror identity, test
  inversion, shrinking with the population; `ciWilson` in these terms; the covering test `coversB`
  of C12.
-/
import StatsCI.Lemmas.Wilson
import Mathlib.Tactic.Linarith
import Mathlib.Tactic.Ring
import Mathlib.Tactic.Positivity

namespace StatsCI.WilsonMono
open StatsCI Proportion Real

noncomputable def centreR (n k z : ℝ) : ℝ :=
  (wilsonCentre (⟨n⟩ : Rex) ⟨k⟩ ⟨z⟩).val
noncomputable def spanR (n k z : ℝ) : ℝ :=
  (wilsonSpan (⟨n⟩ : Rex) ⟨k⟩ ⟨z⟩).val
/-- lower end `centre − span` exactly as `Proportion.finish` forms it (`Proportion.finishWilson`
    clamps it at `0`; on the domain it is non-negative, `lowerR_nonneg`) -/
noncomputable def lowerR (n k z : ℝ) : ℝ :=
  (wilsonCentre (⟨n⟩ : Rex) ⟨k⟩ ⟨z⟩).val - (wilsonSpan (⟨n⟩ : Rex) ⟨k⟩ ⟨z⟩).val
/-- upper end `centre + span` exactly as `Proportion.finish` forms it (`Proportion.finishWilson`
    clamps it at `1`; on the domain it is at most `1`, `upperR_le_one`) -/
noncomputable def upperR (n k z : ℝ) : ℝ :=
  (wilsonCentre (⟨n⟩ : Rex) ⟨k⟩ ⟨z⟩).val + (wilsonSpan (⟨n⟩ : Rex) ⟨k⟩ ⟨z⟩).val

noncomputable def D (n k z : ℝ) : ℝ := k * (n - k) / n + z ^ 2 / 4

theorem lowerR_def (n k z : ℝ) : lowerR n k z = centreR n k z - spanR n k z := rfl
theorem upperR_def (n k z : ℝ) : upperR n k z = centreR n k z + spanR n k z := rfl

/-! the real functions of `Lemmas/Wilson.lean` are these; every fact below is read off theirs -/

theorem centreR_eq (n k z : ℝ) : centreR n k z = Wilson.centre n k z := Wilson.wilsonCentre_val n k z
theorem spanR_eq (n k z : ℝ) : spanR n k z = Wilson.span n k z := Wilson.wilsonSpan_val n k z

theorem lowerR_eq_sub (n k z : ℝ) : lowerR n k z = Wilson.centre n k z - Wilson.span n k z := by
  rw [lowerR, Wilson.wilsonCentre_val, Wilson.wilsonSpan_val]

theorem upperR_eq_add (n k z : ℝ) : upperR n k z = Wilson.centre n k z + Wilson.span n k z := by
  rw [upperR, Wilson.wilsonCentre_val, Wilson.wilsonSpan_val]

/-- the textbook form, one fraction -/
theorem lowerR_eq (n k z : ℝ) :
    lowerR n k z = (k + z ^ 2 / 2 - z * sqrt (D n k z)) / (n + z ^ 2) := by
  rw [lowerR_eq_sub, Wilson.centre, Wilson.span, D]; ring

theorem upperR_eq (n k z : ℝ) :
    upperR n k z = (k + z ^ 2 / 2 + z * sqrt (D n k z)) / (n + z ^ 2) := by
  rw [upperR_eq_add, Wilson.centre, Wilson.span, D]; ring

theorem D_nonneg (n k z : ℝ) (hn : 0 < n) (hk0 : 0 ≤ k) (hkn : k ≤ n) : 0 ≤ D n k z :=
  Wilson.D_nonneg n k z hn hk0 hkn

theorem sqrtD_ge (n k z : ℝ) (hn : 0 < n) (hk0 : 0 ≤ k) (hkn : k ≤ n) :
    |z * (n - 2 * k) / (2 * n)| ≤ sqrt (D n k z) :=
  Wilson.sqrtD_ge n k z hn hk0 hkn

/-- `z (√D(k') − √D(k)) ≤ k' − k`: the lower root moves up at most as fast as `k`.  With
    `A = √D(k)`, `A' = √D(k')`: `(A' − A)(A' + A) = (k' − k)(n − k − k')/n`, and `sqrtD_ge` at `k`
    and `k'` gives `z (n − k − k')/n ≤ A' + A` -/
theorem sqrt_step (n k k' z : ℝ) (hn : 0 < n) (hz : 0 ≤ z) (hk0 : 0 ≤ k) (hkk : k ≤ k')
    (hkn : k' ≤ n) : z * (sqrt (D n k' z) - sqrt (D n k z)) ≤ k' - k := by
  set A := sqrt (D n k z)
  set A' := sqrt (D n k' z)
  have hA0 : 0 ≤ A := sqrt_nonneg _
  by_cases hle : A' ≤ A
  · have : z * (A' - A) ≤ 0 := mul_nonpos_of_nonneg_of_nonpos hz (sub_nonpos.mpr hle)
    linarith only [this, hkk]
  · have hle : A < A' := lt_of_not_ge hle
    have hpos : 0 < A' + A := by linarith only [hle, hA0]
    have hk'0 : 0 ≤ k' := le_trans hk0 hkk
    have hkn' : k ≤ n := le_trans hkk hkn
    have sqA : A ^ 2 = D n k z := sq_sqrt (D_nonneg n k z hn hk0 hkn')
    have sqA' : A' ^ 2 = D n k' z := sq_sqrt (D_nonneg n k' z hn hk'0 hkn)
    have hdiff : (A' - A) * (A' + A) = (k' - k) * (n - k - k') / n := by
      have : (A' - A) * (A' + A) = A' ^ 2 - A ^ 2 := by ring
      rw [this, sqA, sqA', D, D]; ring
    have hb := sqrtD_ge n k z hn hk0 hkn'
    have hb' := sqrtD_ge n k' z hn hk'0 hkn
    have hw : z * (n - k - k') / n ≤ A' + A := by
      have e : z * (n - k - k') / n = z * (n - 2 * k') / (2 * n) + z * (n - 2 * k) / (2 * n) := by
        ring
      rw [e]
      exact add_le_add ((le_abs_self _).trans hb') ((le_abs_self _).trans hb)
    have hmul : z * (A' - A) * (A' + A) ≤ (k' - k) * (A' + A) := by
      rw [mul_assoc, hdiff, mul_div_assoc, mul_left_comm, ← mul_div_assoc]
      exact mul_le_mul_of_nonneg_left hw (sub_nonneg.mpr hkk)
    exact le_of_mul_le_mul_right hmul hpos

theorem lowerR_mono_k (n k k' z : ℝ) (hn : 0 < n) (hz : 0 ≤ z) (hk0 : 0 ≤ k) (hkk : k ≤ k')
    (hkn : k' ≤ n) : lowerR n k z ≤ lowerR n k' z := by
  rw [lowerR_eq, lowerR_eq]
  apply div_le_div_of_nonneg_right _ (Wilson.den_pos n z hn).le
  have := sqrt_step n k k' z hn hz hk0 hkk hkn
  linarith only [this]

theorem lowerR_mirror (n k z : ℝ) (hn : 0 < n) : lowerR n (n - k) z = 1 - upperR n k z := by
  rw [lowerR_eq_sub, upperR_eq_add, Wilson.centre_symm n k z hn, Wilson.span_symm]; ring

theorem upperR_mirror (n k z : ℝ) (hn : 0 < n) : upperR n (n - k) z = 1 - lowerR n k z := by
  rw [lowerR_eq_sub, upperR_eq_add, Wilson.centre_symm n k z hn, Wilson.span_symm]; ring

theorem upperR_mono_k (n k k' z : ℝ) (hn : 0 < n) (hz : 0 ≤ z) (hk0 : 0 ≤ k) (hkk : k ≤ k')
    (hkn : k' ≤ n) : upperR n k z ≤ upperR n k' z := by
  have h := lowerR_mono_k n (n - k') (n - k) z hn hz (sub_nonneg.mpr hkn) (sub_le_sub_left hkk n)
    (sub_le_self n hk0)
  rwa [lowerR_mirror n k' z hn, lowerR_mirror n k z hn, sub_le_sub_iff_left] at h

theorem lowerR_le_upperR (n k z : ℝ) (hn : 0 < n) (hz : 0 ≤ z) : lowerR n k z ≤ upperR n k z := by
  rw [lowerR_eq_sub, upperR_eq_add]
  linarith only [Wilson.span_nonneg n k z hn hz]

theorem lowerR_nonneg (n k z : ℝ) (hn : 0 < n) (hk0 : 0 ≤ k) (hkn : k ≤ n) :
    0 ≤ lowerR n k z := by
  rw [lowerR_eq_sub]
  linarith only [Wilson.abs_span_le_centre n k z hn hk0 hkn, le_abs_self (Wilson.span n k z)]

theorem upperR_le_one (n k z : ℝ) (hn : 0 < n) (hk0 : 0 ≤ k) (hkn : k ≤ n) :
    upperR n k z ≤ 1 := by
  rw [upperR_eq_add]
  linarith only [Wilson.centre_add_abs_span_le_one n k z hn hk0 hkn,
    le_abs_self (Wilson.span n k z)]

theorem lowerR_le_ratio (n k z : ℝ) (hn : 0 < n) (hz : 0 ≤ z) (hk0 : 0 ≤ k) (hkn : k ≤ n) :
    lowerR n k z ≤ k / n :=
  lowerR_eq_sub n k z ▸ (Wilson.encloses n k z hn hz hk0 hkn).1

theorem ratio_le_upperR (n k z : ℝ) (hn : 0 < n) (hz : 0 ≤ z) (hk0 : 0 ≤ k) (hkn : k ≤ n) :
    k / n ≤ upperR n k z :=
  upperR_eq_add n k z ▸ (Wilson.encloses n k z hn hz hk0 hkn).2

theorem upperR_pos (n k z : ℝ) (hn : 0 < n) (hz : 0 ≤ z) (hk0 : 0 ≤ k) (h : 0 < z ∨ 0 < k) :
    0 < upperR n k z := by
  rw [upperR_eq_add]
  linarith only [Wilson.centre_pos n k z hn hk0 h, Wilson.span_nonneg n k z hn hz]

theorem lowerR_lt_one (n k z : ℝ) (hn : 0 < n) (hz : 0 ≤ z) (hkn : k ≤ n)
    (h : 0 < z ∨ k < n) : lowerR n k z < 1 := by
  have h' := upperR_pos n (n - k) z hn hz (sub_nonneg.mpr hkn)
    (h.imp_right sub_pos.mpr)
  rwa [upperR_mirror n k z hn, sub_pos] at h'

theorem centreR_convex (n k z : ℝ) (hn : 0 < n) :
    centreR n k z = n / (n + z ^ 2) * (k / n) + z ^ 2 / (n + z ^ 2) * (1 / 2) := by
  rw [centreR_eq, Wilson.centre, div_mul_div_cancel₀' hn.ne', div_mul_div_comm, mul_one,
    mul_comm _ (2 : ℝ), ← div_div, ← add_div]

theorem weights (n z : ℝ) (hn : 0 < n) :
    0 < n / (n + z ^ 2) ∧ 0 ≤ z ^ 2 / (n + z ^ 2) ∧ n / (n + z ^ 2) + z ^ 2 / (n + z ^ 2) = 1 := by
  have hN : 0 < n + z ^ 2 := Wilson.den_pos n z hn
  exact ⟨div_pos hn hN, div_nonneg (sq_nonneg z) hN.le, by rw [← add_div, div_self hN.ne']⟩

theorem score_root_lower (n k z : ℝ) (hn : 0 < n) (hk0 : 0 ≤ k) (hkn : k ≤ n) :
    (lowerR n k z - k / n) ^ 2 = z ^ 2 * (lowerR n k z * (1 - lowerR n k z)) / n :=
  (Wilson.score_root_iff n k z _ hn hk0 hkn).mpr (Or.inl (lowerR_eq_sub n k z))

theorem score_root_upper (n k z : ℝ) (hn : 0 < n) (hk0 : 0 ≤ k) (hkn : k ≤ n) :
    (upperR n k z - k / n) ^ 2 = z ^ 2 * (upperR n k z * (1 - upperR n k z)) / n :=
  (Wilson.score_root_iff n k z _ hn hk0 hkn).mpr (Or.inr (upperR_eq_add n k z))

/-- a root `0` of the score equation forces `k = 0` -/
theorem lowerR_pos (n k z : ℝ) (hn : 0 < n) (hk0 : 0 < k) (hkn : k ≤ n) : 0 < lowerR n k z := by
  refine lt_of_le_of_ne (lowerR_nonneg n k z hn hk0.le hkn) fun h0 => ?_
  have h := score_root_lower n k z hn hk0.le hkn
  rw [← h0, zero_mul, mul_zero, zero_div, zero_sub, neg_sq, sq_eq_zero_iff] at h
  exact (div_pos hk0 hn).ne' h

theorem upperR_lt_one (n k z : ℝ) (hn : 0 < n) (hk0 : 0 ≤ k) (hkn : k < n) :
    upperR n k z < 1 := by
  have h := lowerR_pos n (n - k) z hn (sub_pos.mpr hkn) (sub_le_self n hk0)
  rwa [lowerR_mirror n k z hn, sub_pos] at h

theorem duality (n k z p : ℝ) (hn : 0 < n) (hz : 0 ≤ z) (hk0 : 0 ≤ k) (hkn : k ≤ n) :
    (lowerR n k z ≤ p ∧ p ≤ upperR n k z) ↔ (p - k / n) ^ 2 ≤ z ^ 2 * (p * (1 - p)) / n := by
  rw [Wilson.score_le_iff n k z p hn hk0 hkn, abs_of_nonneg (Wilson.span_nonneg n k z hn hz), abs_le,
    neg_le_sub_iff_le_add, sub_le_iff_le_add', lowerR_eq_sub, upperR_eq_add, sub_le_iff_le_add]

theorem le_mul_sqrt_iff (a z b : ℝ) (ha : 0 < a) (hz : 0 ≤ z) :
    a ≤ z * sqrt b ↔ a ^ 2 ≤ z ^ 2 * b := by
  have e : z * sqrt b = sqrt (z ^ 2 * b) := by rw [sqrt_mul (sq_nonneg z), sqrt_sq hz]
  rw [e, le_sqrt' ha]

/-- the lower bound is below `p` iff the one-sided score test does not reject `p` as too small:
    above `k/n` both sides hold; below it `p ≤ upperR` holds anyway and the rest is `duality` -/
theorem duality_lower (n k z p : ℝ) (hn : 0 < n) (hz : 0 ≤ z) (hk0 : 0 ≤ k) (hkn : k ≤ n) :
    lowerR n k z ≤ p ↔ k / n - p ≤ z * sqrt (p * (1 - p) / n) := by
  rcases le_or_gt (k / n) p with hp | hp
  · exact iff_of_true ((lowerR_le_ratio n k z hn hz hk0 hkn).trans hp)
      ((sub_nonpos.mpr hp).trans (mul_nonneg hz (sqrt_nonneg _)))
  · rw [le_mul_sqrt_iff _ _ _ (sub_pos.mpr hp) hz, ← neg_sub, neg_sq, ← mul_div_assoc,
      ← duality n k z p hn hz hk0 hkn]
    exact (and_iff_left (hp.le.trans (ratio_le_upperR n k z hn hz hk0 hkn))).symm

theorem duality_upper (n k z p : ℝ) (hn : 0 < n) (hz : 0 ≤ z) (hk0 : 0 ≤ k) (hkn : k ≤ n) :
    p ≤ upperR n k z ↔ p - k / n ≤ z * sqrt (p * (1 - p) / n) := by
  have h := duality_lower n (n - k) z (1 - p) hn hz (sub_nonneg.mpr hkn) (sub_le_self n hk0)
  rwa [lowerR_mirror n k z hn, sub_le_sub_iff_left, sub_sub_cancel, mul_comm (1 - p), sub_div,
    div_self hn.ne', sub_sub_sub_cancel_left] at h

theorem between_mono_z (n k z₁ z₂ p : ℝ) (hn : 0 < n) (hz₁ : 0 ≤ z₁) (hz : z₁ ≤ z₂)
    (hk0 : 0 ≤ k) (hkn : k ≤ n) (hp0 : 0 ≤ p) (hp1 : p ≤ 1)
    (hroot : (p - k / n) ^ 2 = z₁ ^ 2 * (p * (1 - p)) / n) :
    lowerR n k z₂ ≤ p ∧ p ≤ upperR n k z₂ := by
  rw [duality n k z₂ p hn (hz₁.trans hz) hk0 hkn, hroot]
  exact div_le_div_of_nonneg_right (mul_le_mul_of_nonneg_right (pow_le_pow_left₀ hz₁ hz 2)
    (mul_nonneg hp0 (sub_nonneg.mpr hp1))) hn.le

theorem upperR_mono_z (n k z₁ z₂ : ℝ) (hn : 0 < n) (hz₁ : 0 ≤ z₁) (hz : z₁ ≤ z₂)
    (hk0 : 0 ≤ k) (hkn : k ≤ n) : upperR n k z₁ ≤ upperR n k z₂ :=
  (between_mono_z n k z₁ z₂ _ hn hz₁ hz hk0 hkn
    ((lowerR_nonneg n k z₁ hn hk0 hkn).trans (lowerR_le_upperR n k z₁ hn hz₁))
    (upperR_le_one n k z₁ hn hk0 hkn) (score_root_upper n k z₁ hn hk0 hkn)).2

theorem lowerR_anti_z (n k z₁ z₂ : ℝ) (hn : 0 < n) (hz₁ : 0 ≤ z₁) (hz : z₁ ≤ z₂)
    (hk0 : 0 ≤ k) (hkn : k ≤ n) : lowerR n k z₂ ≤ lowerR n k z₁ :=
  (between_mono_z n k z₁ z₂ _ hn hz₁ hz hk0 hkn
    (lowerR_nonneg n k z₁ hn hk0 hkn)
    ((lowerR_le_upperR n k z₁ hn hz₁).trans (upperR_le_one n k z₁ hn hk0 hkn))
    (score_root_lower n k z₁ hn hk0 hkn)).1

/-- equal upper ends would be a common root `p` of the two score equations with `p (1 - p) > 0`,
    which forces `z₁² = z₂²` -/
theorem upperR_strictMono_z (n k z₁ z₂ : ℝ) (hn : 0 < n) (hz₁ : 0 ≤ z₁) (hz : z₁ < z₂)
    (hk0 : 0 ≤ k) (hkn : k < n) : upperR n k z₁ < upperR n k z₂ := by
  refine lt_of_le_of_ne (upperR_mono_z n k z₁ z₂ hn hz₁ hz.le hk0 hkn.le) fun heq => ?_
  have hp0 : 0 < upperR n k z₁ := by
    rw [heq]
    exact upperR_pos n k z₂ hn (hz₁.trans hz.le) hk0 (Or.inl (hz₁.trans_lt hz))
  have hq := mul_pos hp0 (sub_pos.mpr (upperR_lt_one n k z₁ hn hk0 hkn))
  have r := score_root_upper n k z₂ hn hk0 hkn.le
  rw [← heq, score_root_upper n k z₁ hn hk0 hkn.le] at r
  exact (div_lt_div_of_pos_right
    (mul_lt_mul_of_pos_right (pow_lt_pow_left₀ hz hz₁ two_ne_zero) hq) hn).ne r

theorem lowerR_strictAnti_z (n k z₁ z₂ : ℝ) (hn : 0 < n) (hz₁ : 0 ≤ z₁) (hz : z₁ < z₂)
    (hk0 : 0 < k) (hkn : k ≤ n) : lowerR n k z₂ < lowerR n k z₁ := by
  have h := upperR_strictMono_z n (n - k) z₁ z₂ hn hz₁ hz (sub_nonneg.mpr hkn) (sub_lt_self n hk0)
  rwa [upperR_mirror n k z₁ hn, upperR_mirror n k z₂ hn, sub_lt_sub_iff_left] at h

/-! `z ↦ −z` exchanges the ends, so the monotonicity in `z` holds on all of ℝ -/

theorem lowerR_neg (n k z : ℝ) : lowerR n k (-z) = upperR n k z := by
  rw [lowerR_eq_sub, upperR_eq_add, Wilson.centre, Wilson.centre, Wilson.span, Wilson.span, neg_sq,
    neg_div, neg_mul, sub_neg_eq_add]

theorem upperR_neg (n k z : ℝ) : upperR n k (-z) = lowerR n k z := by
  rw [← lowerR_neg, neg_neg]

/-- the upper Wilson bound is monotone in `z` on all of ℝ: on `z ≥ 0` by `upperR_mono_z`, on `z ≤ 0`
    it is the mirrored lower bound, and across `0` both pass through the bounds at `z = 0` -/
theorem upperR_mono {n k : ℕ} (hn : 0 < n) (hkn : k ≤ n) {z₁ z₂ : ℝ} (hz : z₁ ≤ z₂) :
    upperR n k z₁ ≤ upperR n k z₂ := by
  obtain ⟨hn, hk0, hkn⟩ := Wilson.cast_dom hn hkn
  rcases le_or_gt 0 z₁ with h1 | h1
  · exact upperR_mono_z n k z₁ z₂ hn h1 hz hk0 hkn
  · rcases le_or_gt z₂ 0 with h2 | h2
    · have := lowerR_anti_z n k (-z₂) (-z₁) hn (neg_nonneg.mpr h2) (neg_le_neg hz) hk0 hkn
      rwa [lowerR_neg, lowerR_neg] at this
    · have a := lowerR_anti_z n k 0 (-z₁) hn le_rfl (neg_pos.mpr h1).le hk0 hkn
      rw [lowerR_neg] at a
      have b := lowerR_le_upperR n k 0 hn le_rfl
      exact a.trans (b.trans (upperR_mono_z n k 0 z₂ hn le_rfl h2.le hk0 hkn))

theorem lowerR_anti {n k : ℕ} (hn : 0 < n) (hkn : k ≤ n) {z₁ z₂ : ℝ} (hz : z₁ ≤ z₂) :
    lowerR n k z₂ ≤ lowerR n k z₁ := by
  have := upperR_mono hn hkn (neg_le_neg hz)
  rwa [upperR_neg, upperR_neg] at this

theorem shrink_poly (a c n m : ℝ) :
    (a + c / 4) * (m * n + c) ^ 2 - (m * a + c / 4) * (n + c) ^ 2
      = (m - 1) * (n + c) * (a * n + c * (n / 2 - a)) + (m - 1) ^ 2 * n ^ 2 * (a + c / 4) := by
  ring

/-- with `a = k(n−k)/n ≤ n/4` and `c = z²`: `√(m a + c/4)/(m n + c) < √(a + c/4)/(n + c)` for `m > 1`;
    squared and cleared of denominators the difference is `shrink_poly`, a sum of non-negative terms
    with one positive -/
theorem shrink_core (a c n m : ℝ) (hn : 0 < n) (hc : 0 < c) (ha0 : 0 ≤ a) (ha4 : a ≤ n / 4)
    (hm : 1 < m) : sqrt (m * a + c / 4) / (m * n + c) < sqrt (a + c / 4) / (n + c) := by
  have hq : 0 < n + c := by linarith only [hn, hc]
  have hp : 0 < m * n + c := add_pos (mul_pos (by linarith only [hm]) hn) hc
  have hX : 0 ≤ m * a + c / 4 :=
    add_nonneg (mul_nonneg (by linarith only [hm]) ha0) (by linarith only [hc])
  have hY : 0 ≤ a + c / 4 := by linarith only [ha0, hc]
  have t2 : 0 < a * n + c * (n / 2 - a) :=
    add_pos_of_nonneg_of_pos (mul_nonneg ha0 hn.le) (mul_pos hc (by linarith only [ha4, hn]))
  rw [div_lt_div_iff₀ hp hq]
  apply lt_of_pow_lt_pow_left₀ 2 (mul_nonneg (sqrt_nonneg _) hp.le)
  rw [mul_pow, mul_pow, sq_sqrt hX, sq_sqrt hY, ← sub_pos, shrink_poly]
  exact add_pos_of_pos_of_nonneg (mul_pos (mul_pos (sub_pos.mpr hm) hq) t2)
    (mul_nonneg (mul_nonneg (sq_nonneg _) (sq_nonneg _)) hY)

theorem spanR_shrink (n k z m : ℝ) (hn : 0 < n) (hz : 0 < z) (hk0 : 0 ≤ k) (hkn : k ≤ n)
    (hm : 1 < m) : spanR (m * n) (m * k) z < spanR n k z := by
  have ha0 : 0 ≤ k * (n - k) / n := div_nonneg (mul_nonneg hk0 (sub_nonneg.mpr hkn)) hn.le
  have ha4 : k * (n - k) / n ≤ n / 4 := by
    rw [div_le_iff₀ hn]
    linarith only [sq_nonneg (n - 2 * k)]
  have hs : m * k * (m * n - m * k) / (m * n) = m * (k * (n - k) / n) := by
    rw [← mul_sub, mul_mul_mul_comm, mul_assoc m m, mul_div_mul_left _ _ (by linarith only [hm]),
      mul_div_assoc]
  -- both sides in the shape `z * (√… / (… + z²))`
  rw [spanR_eq, spanR_eq, Wilson.span, Wilson.span, hs, div_mul_eq_mul_div, mul_div_assoc,
    div_mul_eq_mul_div z, mul_div_assoc z]
  exact mul_lt_mul_of_pos_left
    (shrink_core (k * (n - k) / n) (z ^ 2) n m hn (by positivity) ha0 ha4 hm) hz

/-- past the count tests and the probability test only the two-sided kind can fail, on a negative
    critical value (which inverts the Wilson ends) -/
theorem ciWilson_ok_iff_rex {crit : Crit Rex} {conf : Confidence Rex} {n k : ℕ} {I : Interval Rex} :
    ciWilson crit conf n k = .ok I ↔ 2 ≤ k ∧ k + 2 ≤ n ∧ probOk conf.quantile = true ∧
      I = propShape conf (⟨lowerR n k (QSpec.zOf crit conf)⟩ : Rex) ⟨upperR n k (QSpec.zOf crit conf)⟩ ∧
      (conf.isTwoSided = true → 0 ≤ QSpec.zOf crit conf) := by
  rw [lowerR_eq_sub, upperR_eq_add]
  constructor
  · intro h
    obtain ⟨h1, hk, h3, hp, _⟩ := ciWilson_eq_ok_iff.mp h
    have hkn : k + 2 ≤ n := (Nat.le_sub_iff_add_le' h1).mp h3
    rw [Wilson.ciWilson_rex crit conf n k hk hkn hp, Outcome.ite_err_eq_ok_iff] at h
    obtain ⟨hc, h⟩ := h
    cases h
    exact ⟨hk, hkn, hp, rfl, fun ht => not_lt.mp fun hz => hc ⟨ht, hz⟩⟩
  · rintro ⟨hk, hkn, hp, rfl, hz⟩
    rw [Wilson.ciWilson_rex crit conf n k hk hkn hp, if_neg fun hc => not_lt.mpr (hz hc.1) hc.2]

theorem ciWilson_ok (crit : Crit Rex) (conf : Confidence Rex) (n k : ℕ) (hk : 2 ≤ k)
    (hkn : k + 2 ≤ n) (hv : Confidence.validLevel conf.level = true)
    (hz : 0 ≤ (crit (.z conf.quantile)).val) :
    ciWilson crit conf n k = .ok (propShape conf (⟨lowerR n k (crit (.z conf.quantile)).val⟩ : Rex)
      ⟨upperR n k (crit (.z conf.quantile)).val⟩) :=
  ciWilson_ok_iff_rex.mpr ⟨hk, hkn, Confidence.probOk_of_valid_Rex conf hv, rfl, fun _ => hz⟩

open WilsonRound in
theorem finishWilson_mirror (conf : Confidence Rex) {m s m' s' : Rex} (hm : m'.val = 1 - m.val)
    (hs : s'.val = s.val) :
    finishWilson conf.flipped m' s' =
      (finishWilson conf m s).map fun i => i.appliedFlipped fun x => NumOps.sub NumOps.one x := by
  rw [finishWilson_eq_fl, finishWilson_eq_fl, hm, hs, wLo_mirror, wHi_mirror]
  simp only [sub_le_sub_iff_left]
  split <;> rfl

theorem contains_twoSided (a b : Rex) (p : ℝ) :
    (Interval.twoSided a b).contains (⟨p⟩ : Rex) = true ↔ a.val ≤ p ∧ p ≤ b.val := by
  simp [Interval.contains]

theorem propShape_includes (c₁ c₂ : Confidence Rex) (hk : c₁.kind = c₂.kind)
    {lo₁ hi₁ lo₂ hi₂ : Rex} (hlo : lo₂.val ≤ lo₁.val) (hhi : hi₁.val ≤ hi₂.val) :
    (propShape c₂ lo₂ hi₂).includes (propShape c₁ lo₁ hi₁) = true := by
  have two : ∀ {x y a b : Rex}, x.val ≤ a.val → b.val ≤ y.val →
      (Interval.twoSided x y).includes (.twoSided a b) = true := fun h1 h2 =>
    Bool.and_eq_true_iff.mpr ⟨(RR.le_iff _ _).mpr h1, (RR.le_iff _ _).mpr h2⟩
  cases c₁ <;> cases c₂ <;> simp only [Confidence.kind, reduceCtorEq] at hk
  · exact two hlo hhi
  · exact two hlo le_rfl
  · exact two le_rfl hhi

/-- does the interval returned by `ci_wilson` contain `p`?  An `.err`/panic outcome covers nothing. -/
noncomputable def coversB (crit : Crit Rex) (conf : Confidence Rex) (n k : ℕ) (p : ℝ) : Bool :=
  match ciWilson crit conf n k with
  | .ok i => i.contains ⟨p⟩
  | _ => false

theorem coversB_of_ok {crit : Crit Rex} {conf : Confidence Rex} {n k : ℕ} {i : Interval Rex}
    (h : ciWilson crit conf n k = .ok i) (p : ℝ) : coversB crit conf n k p = i.contains ⟨p⟩ := by
  simp [coversB, h]

theorem coversB_outside (crit : Crit Rex) (conf : Confidence Rex) (n k : ℕ) (p : ℝ)
    (h : ¬ (2 ≤ k ∧ k + 2 ≤ n)) : coversB crit conf n k p = false := by
  unfold coversB
  cases hc : ciWilson crit conf n k with
  | ok i => exact absurd ⟨(ciWilson_ok_iff_rex.mp hc).1, (ciWilson_ok_iff_rex.mp hc).2.1⟩ h
  | err e => rfl
  | panic t => rfl

end StatsCI.WilsonMono
