/-
  The binomial distribution as far as the coverage theorems of C12 need it: the probability mass
  function sums to one, its mean (in units of `k/n`) is `p` and its variance about `p` is
  `p(1−p)/n`; hence the outcomes `k` with `(p − k/n)² ≤ z² p(1−p)/n` carry mass at least `1 − 1/z²`
  (Chebyshev) and those on one side of `p + z √(p(1−p)/n)` at least `z²/(1 + z²)` (Cantelli). Both
  inequalities are stated for any finite family of weights with the given mean and variance.
  `edgeMass` is the mass of the outcomes on which `ci_wilson` answers with a count error.
  Sum and variance are Mathlib's `bernstein.probability` and `bernstein.variance`; the mean is
  `bernsteinPolynomial.sum_smul` evaluated at `p` (`pmf_mean_raw`).
-/
import Mathlib.Analysis.SpecialFunctions.Bernstein

namespace StatsCI.Binomial
open Finset

/-- probability of `k` successes among `n` independent trials of success probability `p` -/
noncomputable def pmf (n k : ℕ) (p : ℝ) : ℝ := n.choose k * p ^ k * (1 - p) ^ (n - k)

theorem pmf_nonneg (n k : ℕ) {p : ℝ} (h0 : 0 ≤ p) (h1 : p ≤ 1) : 0 ≤ pmf n k p := by
  unfold pmf
  have : 0 ≤ 1 - p := sub_nonneg.mpr h1
  positivity

theorem pmf_eq_bernstein (n k : ℕ) (p : ℝ) (hp : p ∈ Set.Icc (0 : ℝ) 1) :
    pmf n k p = bernstein n k ⟨p, hp⟩ := by
  rw [bernstein_apply]; rfl

theorem pmf_sum (n : ℕ) {p : ℝ} (h0 : 0 ≤ p) (h1 : p ≤ 1) :
    ∑ k ∈ range (n + 1), pmf n k p = 1 := by
  have hp : p ∈ Set.Icc (0 : ℝ) 1 := ⟨h0, h1⟩
  have := bernstein.probability n ⟨p, hp⟩
  rw [← this, Finset.sum_range]
  exact Finset.sum_congr rfl (fun k _ => pmf_eq_bernstein n k p hp)

theorem pmf_variance (n : ℕ) (hn : n ≠ 0) {p : ℝ} (h0 : 0 ≤ p) (h1 : p ≤ 1) :
    ∑ k ∈ range (n + 1), (p - k / n) ^ 2 * pmf n k p = p * (1 - p) / n := by
  have hp : p ∈ Set.Icc (0 : ℝ) 1 := ⟨h0, h1⟩
  have := bernstein.variance hn ⟨p, hp⟩
  rw [← this, Finset.sum_range]
  refine Finset.sum_congr rfl (fun k _ => ?_)
  rw [pmf_eq_bernstein n k p hp]
  simp [bernstein.z]

section finite
variable {ι : Type*} (s : Finset ι) (w g : ι → ℝ)

theorem markov (hw : ∀ i ∈ s, 0 ≤ w i) (hg : ∀ i ∈ s, 0 ≤ g i) (P : ι → Prop) [DecidablePred P]
    (c : ℝ) (hP : ∀ i ∈ s, P i → c ≤ g i) :
    c * ∑ i ∈ s, w i * (if P i then 1 else 0) ≤ ∑ i ∈ s, g i * w i := by
  rw [Finset.mul_sum]
  refine Finset.sum_le_sum fun i hi => ?_
  by_cases h : P i
  · rw [if_pos h, mul_one]; exact mul_le_mul_of_nonneg_right (hP i hi h) (hw i hi)
  · rw [if_neg h, mul_zero, mul_zero]; exact mul_nonneg (hg i hi) (hw i hi)

theorem sum_ite_compl (P Q : ι → Prop) [DecidablePred P] [DecidablePred Q]
    (h : ∀ i ∈ s, (Q i ↔ ¬ P i)) :
    ∑ i ∈ s, w i * (if P i then 1 else 0)
      = ∑ i ∈ s, w i - ∑ i ∈ s, w i * (if Q i then 1 else 0) := by
  rw [← Finset.sum_sub_distrib]
  refine Finset.sum_congr rfl fun i hi => ?_
  by_cases hp : P i
  · rw [if_pos hp, if_neg (fun hq => (h i hi).mp hq hp)]; ring
  · rw [if_neg hp, if_pos ((h i hi).mpr hp)]; ring

theorem sum_ite_eq_zero (hgw : ∀ i ∈ s, g i * w i = 0) (P : ι → Prop) [DecidablePred P]
    (hP : ∀ i ∈ s, P i → g i ≠ 0) : ∑ i ∈ s, w i * (if P i then 1 else 0) = 0 := by
  refine Finset.sum_eq_zero fun i hi => ?_
  by_cases h : P i
  · rw [(mul_eq_zero.mp (hgw i hi)).resolve_left (hP i hi h), zero_mul]
  · rw [if_neg h, mul_zero]

/-- Chebyshev: weights summing to one, `g ≥ 0` of mean `v` (`v = 0` included): the event
    `g ≤ λ v` has weight at least `1 - 1/λ` -/
theorem chebyshev (hw : ∀ i ∈ s, 0 ≤ w i) (hsum : ∑ i ∈ s, w i = 1) (hg : ∀ i ∈ s, 0 ≤ g i)
    {v l : ℝ} (hv : ∑ i ∈ s, g i * w i = v) (hl : 0 < l) :
    1 - 1 / l ≤ ∑ i ∈ s, w i * (if g i ≤ l * v then 1 else 0) := by
  rw [sum_ite_compl s w _ (fun i => l * v < g i) (fun i _ => not_le.symm), hsum]
  have hv0 : 0 ≤ v := hv ▸ Finset.sum_nonneg fun i hi => mul_nonneg (hg i hi) (hw i hi)
  have hm := markov s w g hw hg (fun i => l * v < g i) (l * v) (fun i _ h => h.le)
  rw [hv] at hm
  rcases hv0.lt_or_eq with hpos | h0
  · refine sub_le_sub_left ((le_div_iff₀ hl).mpr (le_of_mul_le_mul_right ?_ hpos)) 1
    linarith only [hm]
  · have hgw := (Finset.sum_eq_zero_iff_of_nonneg
      fun i hi => mul_nonneg (hg i hi) (hw i hi)).mp (hv.trans h0.symm)
    rw [sum_ite_eq_zero s w g hgw _ fun i _ h => ne_of_gt (by rwa [← h0, mul_zero] at h)]
    exact sub_le_sub_left (one_div_nonneg.mpr hl.le) 1

/-- Cantelli: weights summing to one, `d` of mean `0` and variance `v`: the event `t < d`, `t > 0`,
    has weight at most `v / (v + t²)` — Markov for `(d + u)²` at the shift `u = v / t` -/
theorem cantelli (hw : ∀ i ∈ s, 0 ≤ w i) (hsum : ∑ i ∈ s, w i = 1) (d : ι → ℝ)
    (hmean : ∑ i ∈ s, d i * w i = 0) {v t : ℝ} (hvar : ∑ i ∈ s, d i ^ 2 * w i = v) (ht : 0 < t) :
    ∑ i ∈ s, w i * (if t < d i then 1 else 0) ≤ v / (v + t ^ 2) := by
  have hv0 : 0 ≤ v := hvar ▸ Finset.sum_nonneg fun i hi => mul_nonneg (sq_nonneg _) (hw i hi)
  obtain ⟨u, hu0, hut⟩ : ∃ u, 0 ≤ u ∧ u * t = v :=
    ⟨v / t, div_nonneg hv0 ht.le, div_mul_cancel₀ v ht.ne'⟩
  have htu : 0 < t + u := by linarith only [ht, hu0]
  -- E (d + u)² = v + u²
  have e : ∑ i ∈ s, (d i + u) ^ 2 * w i = v + u ^ 2 := by
    have : ∀ i ∈ s, (d i + u) ^ 2 * w i = d i ^ 2 * w i + 2 * u * (d i * w i) + u ^ 2 * w i :=
      fun i _ => by ring
    rw [Finset.sum_congr rfl this, Finset.sum_add_distrib, Finset.sum_add_distrib,
      ← Finset.mul_sum, ← Finset.mul_sum, hvar, hmean, hsum]
    ring
  have key := markov s w (fun i => (d i + u) ^ 2) hw (fun i _ => sq_nonneg _)
    (fun i => t < d i) ((t + u) ^ 2)
    fun i _ hc => pow_le_pow_left₀ htu.le (by linarith only [hc]) 2
  rw [e] at key
  -- `(t + u)² S ≤ v + u² = (t + u) u`, so `(t + u) S ≤ u`; times `t`: `(v + t²) S ≤ v`
  generalize ∑ i ∈ s, w i * (if t < d i then 1 else 0) = S at key ⊢
  have h1 : (t + u) * S ≤ u := le_of_mul_le_mul_left (by linear_combination key - hut) htu
  rw [le_div_iff₀ (by positivity)]
  linear_combination t * h1 - (S - 1) * hut

end finite

theorem score_region_mass (n : ℕ) (hn : n ≠ 0) {p z : ℝ} (h0 : 0 ≤ p) (h1 : p ≤ 1) (hz : 0 < z) :
    1 - 1 / z ^ 2 ≤ ∑ k ∈ range (n + 1),
      pmf n k p * (if (p - k / n) ^ 2 ≤ z ^ 2 * (p * (1 - p)) / n then 1 else 0) := by
  have h := chebyshev (range (n + 1)) (fun k => pmf n k p) (fun k => (p - k / n) ^ 2)
    (fun k _ => pmf_nonneg n k h0 h1) (pmf_sum n h0 h1) (fun k _ => sq_nonneg _)
    (pmf_variance n hn h0 h1) (pow_pos hz 2)
  simpa only [mul_div_assoc] using h

/-- mass of the outcomes the crate rejects (`k < 2` or `k > n − 2`) -/
noncomputable def edgeMass (n : ℕ) (p : ℝ) : ℝ :=
  ∑ k ∈ (range (n + 1)).filter (fun k => ¬ (2 ≤ k ∧ k + 2 ≤ n)), pmf n k p

theorem edgeMass_nonneg (n : ℕ) {p : ℝ} (h0 : 0 ≤ p) (h1 : p ≤ 1) : 0 ≤ edgeMass n p :=
  Finset.sum_nonneg (fun k _ => pmf_nonneg n k h0 h1)

theorem score_region_mass_inner (n : ℕ) (hn : n ≠ 0) {p z : ℝ} (h0 : 0 ≤ p) (h1 : p ≤ 1)
    (hz : 0 < z) :
    1 - 1 / z ^ 2 - edgeMass n p ≤ ∑ k ∈ (range (n + 1)).filter (fun k => 2 ≤ k ∧ k + 2 ≤ n),
      pmf n k p * (if (p - k / n) ^ 2 ≤ z ^ 2 * (p * (1 - p)) / n then 1 else 0) := by
  rw [sub_le_iff_le_add]
  refine (score_region_mass n hn h0 h1 hz).trans ?_
  rw [← Finset.sum_filter_add_sum_filter_not (range (n + 1)) (fun k => 2 ≤ k ∧ k + 2 ≤ n)]
  refine add_le_add_right (Finset.sum_le_sum fun k _ =>
    mul_le_of_le_one_right (pmf_nonneg n k h0 h1) ?_) _
  split_ifs
  exacts [le_rfl, zero_le_one]

theorem pmf_mean_raw (n : ℕ) (p : ℝ) :
    ∑ k ∈ range (n + 1), (k : ℝ) * pmf n k p = n * p := by
  have h := congrArg (Polynomial.eval p) (bernsteinPolynomial.sum_smul ℝ n)
  simp only [Polynomial.eval_finsetSum, nsmul_eq_mul, Polynomial.eval_X,
    bernsteinPolynomial, Polynomial.eval_mul, Polynomial.eval_pow, Polynomial.eval_sub,
    Polynomial.eval_one, Polynomial.eval_natCast] at h
  simpa [pmf] using h

theorem pmf_mean_dev (n : ℕ) (hn : n ≠ 0) {p : ℝ} (h0 : 0 ≤ p) (h1 : p ≤ 1) :
    ∑ k ∈ range (n + 1), ((k : ℝ) / n - p) * pmf n k p = 0 := by
  have hn' : (n : ℝ) ≠ 0 := by exact_mod_cast hn
  have e : ∀ k ∈ range (n + 1), ((k : ℝ) / n - p) * pmf n k p
      = (n : ℝ)⁻¹ * ((k : ℝ) * pmf n k p) - p * pmf n k p := fun k _ => by ring
  rw [Finset.sum_congr rfl e, Finset.sum_sub_distrib, ← Finset.mul_sum, ← Finset.mul_sum,
    pmf_mean_raw, pmf_sum n h0 h1, inv_mul_cancel_left₀ hn', mul_one, sub_self]

/-- Cantelli for the binomial distribution; `s = ±1` chooses the tail -/
theorem tail_mass (n : ℕ) (hn : n ≠ 0) {p t s : ℝ} (hs : s ^ 2 = 1) (h0 : 0 ≤ p) (h1 : p ≤ 1)
    (ht : 0 < t) :
    ∑ k ∈ range (n + 1), pmf n k p * (if t < s * ((k : ℝ) / n - p) then 1 else 0)
      ≤ (p * (1 - p) / n) / (p * (1 - p) / n + t ^ 2) := by
  have hmean : ∑ k ∈ range (n + 1), (s * ((k : ℝ) / n - p)) * pmf n k p = 0 := by
    have : ∀ k ∈ range (n + 1), (s * ((k : ℝ) / n - p)) * pmf n k p
        = s * (((k : ℝ) / n - p) * pmf n k p) := by intro k _; ring
    rw [Finset.sum_congr rfl this, ← Finset.mul_sum, pmf_mean_dev n hn h0 h1, mul_zero]
  have hvar : ∑ k ∈ range (n + 1), (s * ((k : ℝ) / n - p)) ^ 2 * pmf n k p = p * (1 - p) / n := by
    rw [← pmf_variance n hn h0 h1]
    apply Finset.sum_congr rfl; intro k _
    rw [mul_pow, hs]; ring
  exact cantelli _ _ (fun k _ => pmf_nonneg n k h0 h1) (pmf_sum n h0 h1)
    (fun k : ℕ => s * ((k : ℝ) / n - p)) hmean hvar ht

theorem one_sided_region_mass (n : ℕ) (hn : n ≠ 0) {p z s : ℝ} (hs : s ^ 2 = 1) (h0 : 0 ≤ p)
    (h1 : p ≤ 1) (hz : 0 < z) :
    1 - 1 / (1 + z ^ 2) ≤ ∑ k ∈ range (n + 1),
      pmf n k p * (if s * ((k : ℝ) / n - p) ≤ z * Real.sqrt (p * (1 - p) / n) then 1 else 0) := by
  set v : ℝ := p * (1 - p) / n with hv
  have hv0 : 0 ≤ v := div_nonneg (mul_nonneg h0 (sub_nonneg.mpr h1)) (Nat.cast_nonneg n)
  have hsum := pmf_sum n h0 h1
  rw [sum_ite_compl _ _ _ (fun k : ℕ => z * Real.sqrt v < s * ((k : ℝ) / n - p))
    (fun k _ => not_le.symm), hsum]
  rcases hv0.lt_or_eq with hvpos | hv0'
  · have ht : 0 < z * Real.sqrt v := mul_pos hz (Real.sqrt_pos.mpr hvpos)
    have h := tail_mass n hn hs h0 h1 ht
    rw [← hv] at h
    rw [mul_pow, Real.sq_sqrt hv0, ← one_add_mul, div_mul_cancel_right₀ hvpos.ne', ← one_div] at h
    exact sub_le_sub_left h 1
  · -- zero variance: all mass sits at `k/n = p`, the tail is empty
    have hgw := (Finset.sum_eq_zero_iff_of_nonneg fun (k : ℕ) _ =>
      mul_nonneg (sq_nonneg (p - (k : ℝ) / n)) (pmf_nonneg n k h0 h1)).mp
      ((pmf_variance n hn h0 h1).trans (hv.symm.trans hv0'.symm))
    have hne : ∀ k ∈ range (n + 1), z * Real.sqrt v < s * ((k : ℝ) / n - p) →
        (p - (k : ℝ) / n) ^ 2 ≠ 0 := by
      intro k _ h hd
      rw [← hv0', Real.sqrt_zero, mul_zero, ← neg_sub, pow_eq_zero_iff two_ne_zero |>.mp hd,
        neg_zero, mul_zero] at h
      exact lt_irrefl 0 h
    rw [sum_ite_eq_zero _ _ _ hgw _ hne]
    exact sub_le_sub_left (by positivity) 1

end StatsCI.Binomial
