/-
  StatsCI.Lemmas.Wilson — the constructors `Proportion.finish` / `Proportion.finishWilson` on any
  carrier `RR fl` as an order test on two real bounds (`WilsonRound.finLo` … `wHi`); the Wilson
  score interval over the reals (`Wilson.centre`, `Wilson.span`), everything from the one identity
  `score_defect`; the model functions `Proportion.wilsonCentre`, `Proportion.wilsonSpan` and
  `ciWilson` at exact arithmetic `Rex = RR id` in those terms (`ciWilson_rex`).
-/
import StatsCI.Lemmas.RR
import StatsCI.Lemmas.EntryPoints
import StatsCI.Lemmas.Rounding
import Mathlib.Analysis.Real.Sqrt
import Mathlib.Tactic.Linarith
import Mathlib.Tactic.Ring
import Mathlib.Tactic.FieldSimp
import Mathlib.Tactic.LinearCombination
import Mathlib.Tactic.Positivity

namespace StatsCI.WilsonRound
open StatsCI Proportion NumOps Scalar
variable {fl : ℝ → ℝ}

/-- the lower bound `finish` hands to `Interval::new` -/
noncomputable def finLo (fl : ℝ → ℝ) (kd : Kind) (m s : ℝ) : ℝ :=
  match kd with
  | .lower => 0
  | _ => fl (m - s)
/-- the upper bound `finish` hands to `Interval::new` -/
noncomputable def finHi (fl : ℝ → ℝ) (kd : Kind) (m s : ℝ) : ℝ :=
  match kd with
  | .upper => 1
  | _ => fl (m + s)

theorem liftI_new_fl (a b : RR fl) :
    (liftI (Interval.new a b) : Outcome (Err (RR fl)) (Interval (RR fl))) =
      if a.val ≤ b.val then .ok (.twoSided ⟨a.val⟩ ⟨b.val⟩) else .err (.interval .invalidBounds) := by
  rw [StatsCI.liftI_new]
  by_cases h : a.val ≤ b.val
  · rw [if_pos h, if_neg (by rw [RR.gt_iff]; exact not_lt.mpr h)]
  · rw [if_neg h, if_pos ((RR.gt_iff a b).mpr (lt_of_not_ge h))]

theorem finish_eq_fl (conf : Confidence (RR fl)) (m s : RR fl) :
    finish conf m s =
      if finLo fl conf.kind m.val s.val ≤ finHi fl conf.kind m.val s.val then
        .ok (.twoSided ⟨finLo fl conf.kind m.val s.val⟩ ⟨finHi fl conf.kind m.val s.val⟩)
      else .err (.interval .invalidBounds) := by
  rw [Proportion.finish_eq, liftI_new_fl]
  cases conf <;> rfl

theorem fin_ordered_of_nonneg (kd : Kind) {m s : ℝ} (h0 : 0 ≤ m) (h1 : m ≤ 1) (hs : 0 ≤ s) :
    finLo id kd m s ≤ finHi id kd m s := by
  cases kd
  · exact (sub_le_self m hs).trans (le_add_of_nonneg_right hs)
  · exact (sub_le_self m hs).trans h1
  · exact h0.trans (le_add_of_nonneg_right hs)

/-- the lower bound `finishWilson` (the end of `ci_wilson`) hands to `Interval::new`: the rounded
    `m - s` clamped from below at `0` (`f64::max`) — and, in the upper one-sided arm, from above at
    `1` as well (`.min(1.)`) —, or the far end `0` -/
noncomputable def wLo (fl : ℝ → ℝ) (kd : Kind) (m s : ℝ) : ℝ :=
  match kd with
  | .lower => 0
  | .upper => min (max (fl (m - s)) 0) 1
  | .twoSided => max (fl (m - s)) 0
/-- the upper bound `finishWilson` hands to `Interval::new`: the rounded `m + s` clamped from
    above at `1` (`f64::min`) — and, in the lower one-sided arm, from below at `0` as well —, or the
    far end `1` -/
noncomputable def wHi (fl : ℝ → ℝ) (kd : Kind) (m s : ℝ) : ℝ :=
  match kd with
  | .upper => 1
  | .lower => max (min (fl (m + s)) 1) 0
  | .twoSided => min (fl (m + s)) 1

theorem wLo_nonneg (fl : ℝ → ℝ) (kd : Kind) (m s : ℝ) : 0 ≤ wLo fl kd m s := by
  cases kd
  · exact le_max_right _ _
  · exact le_min (le_max_right _ _) zero_le_one
  · exact le_rfl

theorem wHi_le_one (fl : ℝ → ℝ) (kd : Kind) (m s : ℝ) : wHi fl kd m s ≤ 1 := by
  cases kd
  · exact min_le_right _ _
  · exact le_rfl
  · exact max_le (min_le_right _ _) zero_le_one

theorem wLo_le_wHi_one_sided (fl : ℝ → ℝ) (kd : Kind) (hk : kd ≠ .twoSided) (m s : ℝ) :
    wLo fl kd m s ≤ wHi fl kd m s := by
  cases kd
  · exact absurd rfl hk
  · exact min_le_right _ _
  · exact le_max_right _ _

theorem wLo_le_wHi (kd : Kind) {m s : ℝ} (h : fl (m - s) ≤ fl (m + s)) (h1 : fl (m - s) ≤ 1)
    (h0 : 0 ≤ fl (m + s)) : wLo fl kd m s ≤ wHi fl kd m s := by
  cases kd
  · exact max_le (le_min h h1) (le_min h0 zero_le_one)
  · exact min_le_right _ _
  · exact le_max_right _ _

theorem wLo_id_eq (kd : Kind) {m s : ℝ} (h : 0 ≤ m - s) (h1 : m - s ≤ 1) :
    wLo id kd m s = finLo id kd m s := by
  cases kd <;> simp only [wLo, finLo, id]
  · exact max_eq_left h
  · rw [max_eq_left h, min_eq_left h1]
theorem wHi_id_eq (kd : Kind) {m s : ℝ} (h : m + s ≤ 1) (h0 : 0 ≤ m + s) :
    wHi id kd m s = finHi id kd m s := by
  cases kd <;> simp only [wHi, finHi, id]
  · exact min_eq_left h
  · rw [min_eq_left h, max_eq_left h0]

theorem finishWilson_eq_fl (conf : Confidence (RR fl)) (m s : RR fl) :
    finishWilson conf m s =
      if wLo fl conf.kind m.val s.val ≤ wHi fl conf.kind m.val s.val then
        .ok (.twoSided ⟨wLo fl conf.kind m.val s.val⟩ ⟨wHi fl conf.kind m.val s.val⟩)
      else .err (.interval .invalidBounds) := by
  rw [Proportion.finishWilson_eq, liftI_new_fl]
  cases conf <;>
    simp only [wilsonEnds, Confidence.kind, wLo, wHi, fmax_val, fmin_val, RR.sub_val, RR.add_val,
      RR.zero_val, RR.one_val] <;> rfl

/-- in exact arithmetic the clamps of `ci_wilson` are the identity on bounds that are proportions -/
theorem _root_.StatsCI.Proportion.finishWilson_eq_finish (conf : Confidence Rex) (m s : Rex)
    (hlo : 0 ≤ m.val - s.val) (hhi : m.val + s.val ≤ 1)
    (hlo1 : m.val - s.val ≤ 1) (hhi0 : 0 ≤ m.val + s.val) :
    Proportion.finishWilson conf m s = Proportion.finish conf m s := by
  rw [finishWilson_eq_fl, finish_eq_fl, wLo_id_eq _ hlo hlo1, wHi_id_eq _ hhi hhi0]

theorem finishWilson_ne_panic (conf : Confidence (RR fl)) (m s : RR fl) (t : String) :
    finishWilson conf m s ≠ .panic t := by
  rw [finishWilson_eq_fl]
  split <;> simp

theorem finishWilson_ok_unit (conf : Confidence (RR fl)) (m s : RR fl) (iv : Interval (RR fl))
    (h : finishWilson conf m s = .ok iv) :
    ∃ lo hi : RR fl, iv = .twoSided lo hi ∧ 0 ≤ lo.val ∧ lo.val ≤ hi.val ∧ hi.val ≤ 1 := by
  rw [finishWilson_eq_fl] at h
  split at h
  · rename_i hle
    injection h with h
    exact ⟨_, _, h.symm, wLo_nonneg _ _ _ _, hle, wHi_le_one _ _ _ _⟩
  · cases h

theorem ciWilson_ok_unit (crit : Crit (RR fl)) (conf : Confidence (RR fl)) (n k : ℕ)
    (iv : Interval (RR fl)) (h : ciWilson crit conf n k = .ok iv) :
    ∃ lo hi : RR fl, iv = .twoSided lo hi ∧ 0 ≤ lo.val ∧ lo.val ≤ hi.val ∧ hi.val ≤ 1 :=
  finishWilson_ok_unit _ _ _ _ (Proportion.ciWilson_eq_ok_iff.mp h).2.2.2.2

theorem finEnds_close (kd : Kind) {ε mF sF m s : ℝ} (h1 : |fl (mF - sF) - (m - s)| ≤ ε)
    (h2 : |fl (mF + sF) - (m + s)| ≤ ε) :
    |finLo fl kd mF sF - finLo id kd m s| ≤ ε ∧ |finHi fl kd mF sF - finHi id kd m s| ≤ ε := by
  have hε : |(0 : ℝ) - 0| ≤ ε ∧ |(1 : ℝ) - 1| ≤ ε := by
    rw [sub_self, sub_self, abs_zero]
    exact ⟨(abs_nonneg _).trans h1, (abs_nonneg _).trans h1⟩
  cases kd
  · exact ⟨h1, h2⟩
  · exact ⟨h1, hε.2⟩
  · exact ⟨hε.1, h2⟩

/-- clamping into `[0, 1]` is 1-Lipschitz -/
theorem wEnds_close (kd : Kind) {ε mF sF m s : ℝ} (h1 : |fl (mF - sF) - (m - s)| ≤ ε)
    (h2 : |fl (mF + sF) - (m + s)| ≤ ε) :
    |wLo fl kd mF sF - wLo id kd m s| ≤ ε ∧ |wHi fl kd mF sF - wHi id kd m s| ≤ ε := by
  have hε : |(0 : ℝ) - 0| ≤ ε ∧ |(1 : ℝ) - 1| ≤ ε := by
    rw [sub_self, sub_self, abs_zero]
    exact ⟨(abs_nonneg _).trans h1, (abs_nonneg _).trans h1⟩
  have g1 : |max (fl (mF - sF)) 0 - max (m - s) 0| ≤ ε := (abs_max_sub_max_le_abs _ _ 0).trans h1
  have g2 : |min (fl (mF + sF)) 1 - min (m + s) 1| ≤ ε := (Rounding.abs_min_sub_min_le_abs _ _ 1).trans h2
  cases kd
  · exact ⟨g1, g2⟩
  · exact ⟨(Rounding.abs_min_sub_min_le_abs _ _ 1).trans g1, hε.2⟩
  · exact ⟨hε.1, (abs_max_sub_max_le_abs _ _ 0).trans g2⟩

theorem wLo_mirror (conf : Confidence Rex) (c s : ℝ) :
    wLo id conf.flipped.kind (1 - c) s = 1 - wHi id conf.kind c s := by
  cases conf <;> simp only [Confidence.flipped, Confidence.kind, wLo, wHi, id, sub_self]
  · rw [← max_sub_sub_left, sub_self, sub_sub]
  · rw [← min_sub_sub_left, ← max_sub_sub_left, sub_self, sub_zero, sub_sub]

theorem wHi_mirror (conf : Confidence Rex) (c s : ℝ) :
    wHi id conf.flipped.kind (1 - c) s = 1 - wLo id conf.kind c s := by
  cases conf <;> simp only [Confidence.flipped, Confidence.kind, wLo, wHi, id, sub_zero]
  · rw [← min_sub_sub_left, sub_zero, sub_add]
  · rw [← max_sub_sub_left, ← min_sub_sub_left, sub_self, sub_zero, sub_add]

end StatsCI.WilsonRound

namespace StatsCI.Wilson
open Real

noncomputable def centre (n k z : ℝ) : ℝ := (k + z ^ 2 / 2) / (n + z ^ 2)
noncomputable def D (n k z : ℝ) : ℝ := k * (n - k) / n + z ^ 2 / 4
noncomputable def span (n k z : ℝ) : ℝ := (z / (n + z ^ 2)) * sqrt (k * (n - k) / n + z ^ 2 / 4)

theorem D_nonneg (n k z : ℝ) (hn : 0 < n) (hk0 : 0 ≤ k) (hkn : k ≤ n) : 0 ≤ D n k z :=
  add_nonneg (div_nonneg (mul_nonneg hk0 (sub_nonneg.mpr hkn)) hn.le) (by positivity)

theorem D_pos (n k z : ℝ) (hn : 0 < n) (hk0 : 0 ≤ k) (hkn : k ≤ n) (hz : z ≠ 0) : 0 < D n k z :=
  add_pos_of_nonneg_of_pos (div_nonneg (mul_nonneg hk0 (sub_nonneg.mpr hkn)) hn.le)
    (by positivity)

theorem den_pos (n z : ℝ) (hn : 0 < n) : 0 < n + z ^ 2 := by positivity

theorem quad_core (n k z r σ κ p : ℝ) (hκ : κ * n = k ^ 2) (hσ : σ ^ 2 = 1)
    (hr : r ^ 2 = k - κ + z ^ 2 / 4) (hp : p * (n + z ^ 2) = k + z ^ 2 / 2 + σ * z * r) :
    (n + z ^ 2) * ((n + z ^ 2) * p ^ 2 - (2 * k + z ^ 2) * p + κ) = 0 := by
  linear_combination (p * (n + z ^ 2) + σ * z * r - k - z ^ 2 / 2) * hp + (z ^ 2 * r ^ 2) * hσ
    + (z ^ 2) * hr + hκ

/-- the one identity behind roots, duality and bounds: the defect of the score equation at `p` is,
    up to the positive factor `n/(n+z²)`, `(p - centre)² - span²` -/
theorem score_defect (n k z p : ℝ) (hn : 0 < n) (hk0 : 0 ≤ k) (hkn : k ≤ n) :
    (p - centre n k z) ^ 2 - span n k z ^ 2
      = n / (n + z ^ 2) * ((p - k / n) ^ 2 - z ^ 2 * (p * (1 - p)) / n) := by
  have hD : 0 ≤ k * (n - k) / n + z ^ 2 / 4 := D_nonneg n k z hn hk0 hkn
  have hN : n + z ^ 2 ≠ 0 := (den_pos n z hn).ne'
  have hn' : n ≠ 0 := hn.ne'
  -- `span² = z²/(n+z²)² · D`, free of the square root
  rw [span, mul_pow, sq_sqrt hD, div_pow, centre]
  field_simp
  ring

theorem score_iff_sq (n k z p : ℝ) (hn : 0 < n) (hk0 : 0 ≤ k) (hkn : k ≤ n) :
    (p - k / n) ^ 2 = z ^ 2 * (p * (1 - p)) / n ↔ (p - centre n k z) ^ 2 = span n k z ^ 2 := by
  rw [← sub_eq_zero, ← sub_eq_zero (a := (p - centre n k z) ^ 2), score_defect n k z p hn hk0 hkn,
    mul_eq_zero, or_iff_right (div_pos hn (den_pos n z hn)).ne']

theorem score_le_iff (n k z p : ℝ) (hn : 0 < n) (hk0 : 0 ≤ k) (hkn : k ≤ n) :
    (p - k / n) ^ 2 ≤ z ^ 2 * (p * (1 - p)) / n ↔ |p - centre n k z| ≤ |span n k z| := by
  rw [← sq_le_sq, ← sub_nonpos, ← sub_nonpos (a := (p - centre n k z) ^ 2),
    score_defect n k z p hn hk0 hkn, ← mul_le_mul_iff_right₀ (div_pos hn (den_pos n z hn)), mul_zero]

theorem score_root (n k z : ℝ) (hn : 0 < n) (hk0 : 0 ≤ k) (hkn : k ≤ n) (σ : ℝ) (hσ : σ ^ 2 = 1) :
    (centre n k z + σ * span n k z - k / n) ^ 2
      = z ^ 2 * ((centre n k z + σ * span n k z) * (1 - (centre n k z + σ * span n k z))) / n :=
  (score_iff_sq n k z _ hn hk0 hkn).mpr (by linear_combination (span n k z ^ 2) * hσ)

theorem score_root_iff (n k z p : ℝ) (hn : 0 < n) (hk0 : 0 ≤ k) (hkn : k ≤ n) :
    (p - k / n) ^ 2 = z ^ 2 * (p * (1 - p)) / n ↔
      p = centre n k z - span n k z ∨ p = centre n k z + span n k z := by
  rw [score_iff_sq n k z p hn hk0 hkn, sq_eq_sq_iff_eq_or_eq_neg, sub_eq_iff_eq_add',
    sub_eq_iff_eq_add', ← sub_eq_add_neg, or_comm]

theorem span_nonneg (n k z : ℝ) (hn : 0 < n) (hz : 0 ≤ z) : 0 ≤ span n k z := by
  have hN := den_pos n z hn
  unfold span
  exact mul_nonneg (div_nonneg hz hN.le) (sqrt_nonneg _)

theorem centre_pos (n k z : ℝ) (hn : 0 < n) (hk0 : 0 ≤ k) (h : 0 < z ∨ 0 < k) :
    0 < centre n k z := by
  have : 0 < k + z ^ 2 / 2 := by rcases h with h | h <;> positivity
  exact div_pos this (den_pos n z hn)

theorem span_neg (n k z : ℝ) (hn : 0 < n) (hk0 : 0 ≤ k) (hkn : k ≤ n) (hz : z < 0) :
    span n k z < 0 := by
  have hN := den_pos n z hn
  have hD := D_pos n k z hn hk0 hkn hz.ne
  unfold span
  exact mul_neg_of_neg_of_pos (div_neg_of_neg_of_pos hz hN) (sqrt_pos.mpr hD)

theorem D_symm (n k z : ℝ) : D n (n - k) z = D n k z := by
  unfold D; ring

theorem centre_symm (n k z : ℝ) (hn : 0 < n) : centre n (n - k) z = 1 - centre n k z := by
  have hN := (den_pos n z hn).ne'
  unfold centre; field_simp; ring

theorem span_symm (n k z : ℝ) : span n (n - k) z = span n k z := by
  unfold span; rw [sub_sub_cancel, mul_comm (n - k) k]

theorem sqrtD_ge (n k z : ℝ) (hn : 0 < n) (hk0 : 0 ≤ k) (hkn : k ≤ n) :
    |z * (n - 2 * k) / (2 * n)| ≤ sqrt (D n k z) := by
  apply abs_le_sqrt
  -- `(z (n - 2k) / (2n))² = z²/4 · ((n - 2k)/n)² ≤ z²/4`
  have hr : ((n - 2 * k) / n) ^ 2 ≤ 1 := by
    rw [sq_le_one_iff_abs_le_one, abs_le, le_div_iff₀ hn, div_le_one hn]
    exact ⟨by linarith only [hkn], by linarith only [hk0]⟩
  have e : (z * (n - 2 * k) / (2 * n)) ^ 2 = z ^ 2 / 4 * ((n - 2 * k) / n) ^ 2 := by ring
  have h0 : 0 ≤ k * (n - k) / n := div_nonneg (mul_nonneg hk0 (sub_nonneg.mpr hkn)) hn.le
  rw [e, D]
  exact (mul_le_of_le_one_right (div_nonneg (sq_nonneg z) four_pos.le) hr).trans
    (le_add_of_nonneg_left h0)

/-- `score_defect` at `p = 0`: `centre² - span² = n/(n+z²) · (k/n)² ≥ 0` -/
theorem abs_span_le_centre (n k z : ℝ) (hn : 0 < n) (hk0 : 0 ≤ k) (hkn : k ≤ n) :
    |span n k z| ≤ centre n k z := by
  have h := score_defect n k z 0 hn hk0 hkn
  rw [zero_sub, neg_sq, zero_mul, mul_zero, zero_div, sub_zero, zero_sub, neg_sq] at h
  refine abs_le_of_sq_le_sq (sub_nonneg.mp ?_) (div_nonneg (by positivity) (den_pos n z hn).le)
  rw [h]
  positivity

theorem centre_add_abs_span_le_one (n k z : ℝ) (hn : 0 < n) (hk0 : 0 ≤ k) (hkn : k ≤ n) :
    centre n k z + |span n k z| ≤ 1 := by
  have h := abs_span_le_centre n (n - k) z hn (sub_nonneg.mpr hkn) (sub_le_self n hk0)
  rw [centre_symm n k z hn, span_symm] at h
  linarith only [h]

/-- `k/n` passes its own score test -/
theorem abs_centre_sub_le (n k z : ℝ) (hn : 0 < n) (hk0 : 0 ≤ k) (hkn : k ≤ n) :
    |centre n k z - k / n| ≤ |span n k z| := by
  rw [abs_sub_comm, ← score_le_iff n k z _ hn hk0 hkn, sub_self, zero_pow two_ne_zero]
  have : 0 ≤ 1 - k / n := sub_nonneg.mpr ((div_le_one hn).mpr hkn)
  positivity

theorem encloses (n k z : ℝ) (hn : 0 < n) (hz : 0 ≤ z) (hk0 : 0 ≤ k) (hkn : k ≤ n) :
    centre n k z - span n k z ≤ k / n ∧ k / n ≤ centre n k z + span n k z := by
  have h := abs_le.mp (abs_centre_sub_le n k z hn hk0 hkn)
  rw [abs_of_nonneg (span_nonneg n k z hn hz)] at h
  exact ⟨sub_le_comm.mp h.2, neg_le_sub_iff_le_add.mp h.1⟩

theorem zsq_of_centre (n k z : ℝ) (hn : 0 < n) (hc : centre n k z ≠ 1 / 2) :
    z ^ 2 = (k - n * centre n k z) / (centre n k z - 1 / 2) := by
  have hN := (den_pos n z hn).ne'
  have h2 : centre n k z - 1 / 2 ≠ 0 := sub_ne_zero.mpr hc
  have h : centre n k z * (n + z ^ 2) = k + z ^ 2 / 2 := div_mul_cancel₀ _ hN
  rw [eq_div_iff h2]
  linear_combination h

theorem centre_eq_half_iff (n k z : ℝ) (hn : 0 < n) : centre n k z = 1 / 2 ↔ 2 * k = n := by
  have hN := (den_pos n z hn).ne'
  unfold centre
  rw [div_eq_iff hN]
  exact ⟨fun h => by linear_combination 2 * h, fun h => by linear_combination (1 / 2) * h⟩

section model
open StatsCI Proportion NumOps Scalar

theorem ofNat_eq (n : ℕ) : (Scalar.ofNat n : Rex) = ⟨(n : ℝ)⟩ := rfl

theorem wilsonCentre_val (n k z : ℝ) :
    (wilsonCentre (⟨n⟩ : Rex) ⟨k⟩ ⟨z⟩).val = centre n k z := by
  simp only [wilsonCentre, centre, RR.add_val, RR.div_val, RR.mul_val, RR.one_val, id,
    one_add_one_eq_two, ← sq]

theorem wilsonSpan_val (n k z : ℝ) :
    (wilsonSpan (⟨n⟩ : Rex) ⟨k⟩ ⟨z⟩).val = span n k z := by
  simp only [wilsonSpan, span, RR.add_val, RR.sub_val, RR.div_val, RR.mul_val, RR.one_val,
    RR.sqrt_val, id, one_add_one_eq_two, two_add_two_eq_four, ← sq]

/-- the same at counts and any `z : Rex`, the form in which `ciWilson` meets them -/
theorem wilson_val (n k : ℕ) (z : Rex) :
    (wilsonCentre (Scalar.ofNat n : Rex) (Scalar.ofNat k) z).val = centre n k z.val ∧
    (wilsonSpan (Scalar.ofNat n : Rex) (Scalar.ofNat k) z).val = span n k z.val :=
  ⟨wilsonCentre_val n k z.val, wilsonSpan_val n k z.val⟩

theorem cast_dom {n k : ℕ} (hn : 0 < n) (hkn : k ≤ n) :
    (0 : ℝ) < n ∧ (0 : ℝ) ≤ k ∧ (k : ℝ) ≤ n :=
  ⟨Nat.cast_pos.mpr hn, Nat.cast_nonneg k, Nat.cast_le.mpr hkn⟩

theorem bounds_unit (n k : ℕ) (hn : 0 < n) (hkn : k ≤ n) (z : ℝ) :
    0 ≤ centre n k z - span n k z ∧ centre n k z - span n k z ≤ 1 ∧
    0 ≤ centre n k z + span n k z ∧ centre n k z + span n k z ≤ 1 := by
  obtain ⟨hn', hk0, hkn'⟩ := cast_dom hn hkn
  have a := abs_le.mp (abs_span_le_centre n k z hn' hk0 hkn')
  have b := centre_add_abs_span_le_one n k z hn' hk0 hkn'
  have c := abs_le.mp (le_refl |span (n : ℝ) k z|)
  exact ⟨sub_nonneg.mpr a.2, by linarith only [b, c.1], neg_le_iff_add_nonneg'.mp a.1,
    (add_le_add_right c.2 _).trans b⟩

theorem quantile_upper (l : Rex) : Confidence.quantile (.upper l) = l := rfl
theorem quantile_lower (l : Rex) : Confidence.quantile (.lower l) = l := rfl

theorem finish_ne_panic (conf : Confidence Rex) (m s : Rex) (t : String) :
    finish conf m s ≠ .panic t := by
  cases conf <;> simp only [finish, Interval.new] <;> split <;> simp [liftI]

/-- the critical value the oracle supplies for this confidence -/
noncomputable abbrev zOf (crit : Crit Rex) (conf : Confidence Rex) : ℝ := (crit (.z conf.quantile)).val
/-- the model's Wilson centre evaluated in exact arithmetic (a real number) -/
noncomputable abbrev mCentre (n k : ℕ) (z : ℝ) : ℝ := (wilsonCentre (⟨n⟩ : Rex) ⟨k⟩ ⟨z⟩).val
/-- the model's Wilson span evaluated in exact arithmetic (a real number) -/
noncomputable abbrev mSpan (n k : ℕ) (z : ℝ) : ℝ := (wilsonSpan (⟨n⟩ : Rex) ⟨k⟩ ⟨z⟩).val

open WilsonRound in
/-- the order test of `Interval::new` on the exact ends fails exactly for a two-sided request with a
    negative critical value: the span has the sign of `z`, the one-sided ends are proportions -/
theorem fin_ordered_iff (conf : Confidence Rex) (n k : ℕ) (hn : 0 < n) (hkn : k ≤ n) (z : ℝ) :
    finLo id conf.kind (centre n k z) (span n k z) ≤ finHi id conf.kind (centre n k z) (span n k z) ↔
      ¬ (conf.isTwoSided = true ∧ z < 0) := by
  obtain ⟨_, b2, b3, _⟩ := bounds_unit n k hn hkn z
  obtain ⟨hn', hk0, hkn'⟩ := cast_dom hn hkn
  cases conf with
  | twoSided l =>
    simp only [Confidence.kind, finLo, finHi, id]
    constructor
    · rintro h ⟨_, hz⟩
      linarith only [h, span_neg n k z hn' hk0 hkn' hz]
    · intro h
      linarith only [span_nonneg n k z hn' (not_lt.mp fun hz => h ⟨rfl, hz⟩)]
  | upper l => exact iff_of_true b2 fun h => Bool.noConfusion h.1
  | lower l => exact iff_of_true b3 fun h => Bool.noConfusion h.1

open WilsonRound in
/-- **`ci_wilson` at exact arithmetic**, past the count tests and the probability test, for every
    kind and every real critical value: both `centre ∓ span` are proportions (`bounds_unit`), so the
    clamp is inert, and the one remaining failure is the order test of `Interval::new` -/
theorem ciWilson_rex (crit : Crit Rex) (conf : Confidence Rex) (n k : ℕ) (hk : 2 ≤ k)
    (hkn : k + 2 ≤ n) (hq : probOk conf.quantile = true) :
    ciWilson crit conf n k =
      if conf.isTwoSided = true ∧ zOf crit conf < 0 then .err (.interval .invalidBounds)
      else .ok (propShape conf (⟨centre n k (zOf crit conf) - span n k (zOf crit conf)⟩ : Rex)
        ⟨centre n k (zOf crit conf) + span n k (zOf crit conf)⟩) := by
  obtain ⟨b1, b2, b3, b4⟩ := bounds_unit n k (by omega) (by omega) (zOf crit conf)
  rw [ciWilson_dom crit conf n k hk hkn, if_pos hq, finishWilson_eq_fl, (wilson_val n k _).1,
    (wilson_val n k _).2, wLo_id_eq _ b1 b2, wHi_id_eq _ b4 b3]
  simp only [fin_ordered_iff conf n k (by omega) (by omega), ite_not]
  cases conf <;> rfl

noncomputable def waldSd (n k : ℝ) : ℝ := sqrt (k / n * (1 - k / n) / n)

theorem waldSd_pos (n k : ℝ) (hk : 0 < k) (hkn : k < n) : 0 < waldSd n k := by
  have hn : 0 < n := hk.trans hkn
  exact sqrt_pos.mpr
    (div_pos (mul_pos (div_pos hk hn) (sub_pos.mpr ((div_lt_one hn).mpr hkn))) hn)

/-- `z²` from any solution `p` of the score equation when `0 < k < n`: were `p (1 - p) = 0`, `p`
    would be `k/n`, which is neither `0` nor `1` -/
theorem zsq_of_root {n k z p : ℝ} (hk0 : 0 < k) (hkn : k < n)
    (h : (p - k / n) ^ 2 = z ^ 2 * (p * (1 - p)) / n) :
    p * (1 - p) ≠ 0 ∧ z ^ 2 = n * (p - k / n) ^ 2 / (p * (1 - p)) := by
  have hn : 0 < n := hk0.trans hkn
  have hne : p * (1 - p) ≠ 0 := by
    intro hp0
    rw [hp0, mul_zero, zero_div, sq_eq_zero_iff, sub_eq_zero] at h
    rw [h] at hp0
    exact (mul_pos (div_pos hk0 hn) (sub_pos.mpr ((div_lt_one hn).mpr hkn))).ne' hp0
  refine ⟨hne, ?_⟩
  rw [h, mul_div_cancel₀ _ hn.ne', mul_div_cancel_right₀ _ hne]

end model

end StatsCI.Wilson
