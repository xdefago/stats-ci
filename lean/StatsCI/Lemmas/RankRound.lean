/-
  StatsCI.Lemmas.RankRound — for C03R: how far the ranks and the success count computed in rounded
  arithmetic `RR fl` can be from the ones computed in exact arithmetic. The computed product
  `fl (p̃ · n)` is within `delta` of `p · n` (`prod_err`); a monotone integer-valued map (floor,
  clamped floor, round) takes two reals that close to equal values when it agrees at the two ends
  of the error interval (`monotone_eq_of_close`), and to values at most one apart when `delta < 1`.
-/
import StatsCI.Lemmas.Quantile
import StatsCI.Lemmas.Rounding

namespace StatsCI
namespace RankRound
open NumOps Scalar QSpec

def WithinOne (i j : ℕ) : Prop := i = j ∨ i = j + 1 ∨ i + 1 = j

theorem withinOne_iff_le {i j : ℕ} : WithinOne i j ↔ i ≤ j + 1 ∧ j ≤ i + 1 := by
  unfold WithinOne; omega

theorem withinOne_iff_abs (i j : ℕ) : WithinOne i j ↔ |(i : ℤ) - j| ≤ 1 := by
  unfold WithinOne; rw [abs_le]; omega

theorem withinOne_iff_mem (i j : ℕ) : WithinOne i j ↔ (i : ℤ) - j ∈ ({-1, 0, 1} : Set ℤ) := by
  unfold WithinOne
  simp only [Set.mem_insert_iff, Set.mem_singleton_iff]
  omega

theorem WithinOne.refl (i : ℕ) : WithinOne i i := Or.inl rfl

theorem WithinOne.symm {i j : ℕ} (h : WithinOne i j) : WithinOne j i := by
  unfold WithinOne at *; omega

theorem WithinOne.min {i j : ℕ} (h : WithinOne i j) (c : ℕ) : WithinOne (min i c) (min j c) := by
  rw [withinOne_iff_le] at h ⊢
  exact ⟨(min_le_min h.1 c.le_succ).trans_eq (min_add_add_right j c 1),
    (min_le_min h.2 c.le_succ).trans_eq (min_add_add_right i c 1)⟩

/-- two rank intervals of the same kind whose ranks are pairwise at most one position apart -/
def IntervalWithinOne : Interval ℕ → Interval ℕ → Prop
  | .twoSided l h, .twoSided l' h' => WithinOne l l' ∧ WithinOne h h'
  | .upper l, .upper l' => WithinOne l l'
  | .lower h, .lower h' => WithinOne h h'
  | _, _ => False

theorem IntervalWithinOne.refl (I : Interval ℕ) : IntervalWithinOne I I := by
  cases I <;> simp [IntervalWithinOne, WithinOne.refl]

theorem IntervalWithinOne.kind {I J : Interval ℕ} (h : IntervalWithinOne I J) :
    I.isTwoSided = J.isTwoSided ∧ I.isUpper = J.isUpper ∧ I.isLower = J.isLower := by
  cases I <;> cases J <;> simp [IntervalWithinOne] at h <;>
    simp [Interval.isTwoSided, Interval.isUpper, Interval.isLower]

section shape
variable {W W' : Type} {c : Confidence W} {c' : Confidence W'}

theorem intervalWithinOne_shapeOf (hk : c.kind = c'.kind) {l l' h h' : ℕ}
    (wl : c'.isLower = false → WithinOne l l') (wh : c'.isUpper = false → WithinOne h h') :
    IntervalWithinOne (shapeOf c l h) (shapeOf c' l' h') := by
  cases c <;> cases c' <;> cases hk
  · exact ⟨wl rfl, wh rfl⟩
  · exact wl rfl
  · exact wh rfl

theorem shapeOf_eq_shapeOf {α : Type} (hk : c.kind = c'.kind) {l l' h h' : α}
    (el : c'.isLower = false → l = l') (eh : c'.isUpper = false → h = h') :
    shapeOf c l h = shapeOf c' l' h' := by
  cases c <;> cases c' <;> cases hk
  · rw [el rfl, eh rfl]; rfl
  · rw [el rfl]; rfl
  · rw [eh rfl]; rfl

end shape

theorem monotone_eq_of_close {β : Type*} [PartialOrder β] {f : ℝ → β} (hf : Monotone f)
    {x y δ : ℝ} (h : |x - y| ≤ δ) (he : f (y - δ) = f (y + δ)) : f x = f y := by
  -- `f` is constant on `[y - δ, y + δ]`, which holds `x` and `y`
  have key {t : ℝ} (h1 : y - δ ≤ t) (h2 : t ≤ y + δ) : f t = f (y - δ) :=
    le_antisymm (he ▸ hf h2) (hf h1)
  have hδ : 0 ≤ δ := (abs_nonneg _).trans h
  obtain ⟨h1, h2⟩ := abs_le.mp h
  rw [key (sub_le_iff_le_add'.mpr (neg_le_sub_iff_le_add'.mp h1)) (sub_le_iff_le_add'.mp h2),
    key (sub_le_self y hδ) (le_add_of_nonneg_right hδ)]

theorem natFloor_eq_of_close {x y δ : ℝ} (h : |x - y| ≤ δ) (hf : ⌊y - δ⌋₊ = ⌊y + δ⌋₊) :
    ⌊x⌋₊ = ⌊y⌋₊ :=
  monotone_eq_of_close Nat.floor_mono h hf

theorem round_eq_of_close {x y δ : ℝ} (h : |x - y| ≤ δ)
    (hf : ⌊y + 1 / 2 - δ⌋ = ⌊y + 1 / 2 + δ⌋) : round x = round y := by
  rw [round_eq, round_eq]
  exact monotone_eq_of_close Int.floor_mono (by rwa [add_sub_add_right_eq_sub]) hf

/-- serves the natural floors `⌊·⌋₊` (`Int.floor_toNat`) and the rounds `⌊· + 1/2⌋` alike -/
theorem floor_toNat_withinOne {x y : ℝ} (h : |x - y| < 1) : WithinOne ⌊x⌋.toNat ⌊y⌋.toNat := by
  have key {s t : ℝ} (hst : |s - t| < 1) : ⌊s⌋.toNat ≤ ⌊t⌋.toNat + 1 := by
    have : ⌊s⌋ ≤ ⌊t⌋ + 1 :=
      (Int.floor_mono (sub_lt_iff_lt_add'.mp ((le_abs_self _).trans_lt hst)).le).trans_eq
        (Int.floor_add_one t)
    rw [Int.toNat_le, Nat.cast_succ]
    exact this.trans (add_le_add_left (Int.self_le_toNat _) 1)
  exact withinOne_iff_le.mpr ⟨key h, key (abs_sub_comm x y ▸ h)⟩

theorem round_eq_of_near {x : ℝ} {m : ℤ} (h : |x - m| < 1 / 2) : round x = m := by
  obtain ⟨h1, h2⟩ := abs_lt.mp h
  exact round_eq_iff.mpr
    ⟨sub_le_iff_le_add'.mpr (neg_lt_sub_iff_lt_add.mp h1).le, sub_lt_iff_lt_add'.mp h2⟩

variable {fl : ℝ → ℝ}

/-- the floating-point hypotheses: relative error `u` per operation, naturals up to `n` exact -/
structure Rounds (fl : ℝ → ℝ) (u : ℝ) (n : ℕ) : Prop where
  nonneg : 0 ≤ u
  err : ∀ x, |fl x - x| ≤ u * |x|
  nat : ∀ m : ℕ, m ≤ n → fl m = m

theorem rounds_id {u : ℝ} (hu : 0 ≤ u) (n : ℕ) : Rounds id u n :=
  ⟨hu, fun x => by rw [id, sub_self, abs_zero]; exact mul_nonneg hu (abs_nonneg x), fun _ _ => rfl⟩

/-- error radius of the computed product `fl (p̃ · n)` about `p · n` when `|p̃ − p| ≤ ε` -/
def delta (u ε p : ℝ) (n : ℕ) : ℝ := n * ε + u * n * (p + ε)

theorem delta_zero (u p : ℝ) (n : ℕ) : delta u 0 p n = u * p * n := by
  unfold delta; ring

theorem delta_nonneg {u ε p : ℝ} (n : ℕ) (hu : 0 ≤ u) (hε : 0 ≤ ε) (hp : 0 ≤ p) :
    0 ≤ delta u ε p n := by
  unfold delta; positivity

theorem delta_lt_one {u ε p : ℝ} (n : ℕ) (hu : 0 ≤ u) (hp1 : p ≤ 1)
    (hs : (ε + u * (1 + ε)) * n < 1) : delta u ε p n < 1 := by
  refine lt_of_le_of_lt ?_ hs
  rw [delta, add_mul, mul_comm ε, mul_right_comm u (1 + ε)]
  exact add_le_add_right
    (mul_le_mul_of_nonneg_left (add_le_add_left hp1 ε) (mul_nonneg hu n.cast_nonneg)) _

/-- no rank boundary within `delta` of `p·n`: the clamped floors of `p·n ∓ delta` agree -/
def RankStable (u ε : ℝ) (n : ℕ) (p : ℝ) : Prop :=
  min ⌊p * n - delta u ε p n⌋₊ (n - 1) = min ⌊p * n + delta u ε p n⌋₊ (n - 1)

theorem rankStable_of_floor {u ε p : ℝ} {n : ℕ}
    (h : ⌊p * n - delta u ε p n⌋ = ⌊p * n + delta u ε p n⌋) : RankStable u ε n p := by
  unfold RankStable; rw [← Int.floor_toNat, ← Int.floor_toNat, h]

theorem rankFl_mono (hmono : Monotone fl) {n : ℕ} (hn : 0 ≤ fl n) {a b : ℝ} (h : a ≤ b) :
    rankFl fl n a ≤ rankFl fl n b :=
  min_le_min (Nat.floor_mono (hmono (mul_le_mul_of_nonneg_right h hn))) le_rfl

section transfer
variable {u ε p pt : ℝ} {n : ℕ}

theorem prod_err (hR : Rounds fl u n) (hp : 0 ≤ p) (hpp : |pt - p| ≤ ε) :
    |fl (pt * fl n) - p * n| ≤ delta u ε p n := by
  have hn0 : (0 : ℝ) ≤ n := n.cast_nonneg
  have h : |pt * n - p * n| ≤ n * ε := by
    rw [← sub_mul, abs_mul, abs_of_nonneg hn0, mul_comm]
    exact mul_le_mul_of_nonneg_left hpp hn0
  have hb : |p * n| ≤ n * p := by rw [abs_of_nonneg (mul_nonneg hp hn0), mul_comm]
  rw [hR.nat n le_rfl]
  exact (Rounding.fl_close hR.err hR.nonneg h hb).trans_eq (by unfold delta; ring)

theorem rankFl_eq_rank (hR : Rounds fl u n) (hp : 0 ≤ p) (hpp : |pt - p| ≤ ε)
    (hf : RankStable u ε n p) : rankFl fl n pt = rank n p :=
  monotone_eq_of_close (f := fun t : ℝ => min ⌊t⌋₊ (n - 1))
    (fun _ _ hab => min_le_min_right _ (Nat.floor_mono hab)) (prod_err hR hp hpp) hf

theorem rankFl_withinOne (hR : Rounds fl u n) (hp : 0 ≤ p) (hpp : |pt - p| ≤ ε)
    (hδ : delta u ε p n < 1) : WithinOne (rankFl fl n pt) (rank n p) := by
  unfold rankFl rank
  rw [← Int.floor_toNat, ← Int.floor_toNat]
  exact (floor_toNat_withinOne ((prod_err hR hp hpp).trans_lt hδ)).min (n - 1)

end transfer

/-! ### vocabulary of the C03R statements -/

/-- the Wilson bounds computed at `RR fl` are within `ε` of the exact ones (whenever both
    computations succeed) -/
def WilsonClose (ε : ℝ) (rF : Outcome (Err (RR fl)) (Interval (RR fl)))
    (r : Outcome (Err Rex) (Interval Rex)) : Prop :=
  ∀ aF bF a b, rF = .ok (.twoSided aF bF) → r = .ok (.twoSided a b) →
    |aF.val - a.val| ≤ ε ∧ |bF.val - b.val| ≤ ε

theorem wilsonClose_self {ε : ℝ} (hε : 0 ≤ ε) (r : Outcome (Err Rex) (Interval Rex)) :
    WilsonClose (fl := id) ε r r := by
  intro aF bF a b h1 h2
  cases h1.symm.trans h2
  exact ⟨by rwa [sub_self, abs_zero], by rwa [sub_self, abs_zero]⟩

/-- both runs of `ci_indices` succeeded on the same success count: the two pairs of Wilson bounds,
    `ε`-close, and the two rank intervals in their terms -/
theorem ciIndices_ok_close {ε : ℝ} {n : ℕ} (critF : Crit (RR fl)) (confF : Confidence (RR fl))
    (qF : RR fl) (crit : Crit Rex) (conf : Confidence Rex) (q : Rex)
    (hk : succFl fl qF.val n = successes q.val n)
    (hW : WilsonClose ε (Proportion.ciWilson critF confF n (successes q.val n))
      (Proportion.ciWilson crit conf n (successes q.val n)))
    {IF I : Interval ℕ} (hF : Quantile.ciIndices critF confF n qF = .ok IF)
    (hE : Quantile.ciIndices crit conf n q = .ok I) :
    ∃ (aF bF : RR fl) (a b : Rex),
      Proportion.ciWilson crit conf n (successes q.val n) = .ok (.twoSided a b) ∧
      (0 ≤ a.val ∧ a.val ≤ b.val ∧ b.val ≤ 1) ∧ (|aF.val - a.val| ≤ ε ∧ |bF.val - b.val| ≤ ε) ∧
      IF = shapeOf confF (rankFl fl n aF.val) (rankFl fl n bF.val) ∧
      I = shapeOf conf (rank n a.val) (rank n b.val) := by
  obtain ⟨-, -, aF, bF, hWF, -, -, -, hIF⟩ := ciIndices_ok_inv critF confF n qF IF hF
  obtain ⟨-, -, a, b, hWE, ha, hab, hb, hI⟩ := ciIndices_ok_inv crit conf n q I hE
  rw [hk] at hWF
  exact ⟨aF, bF, a, b, hWE, ⟨ha, hab, hb⟩, hW aF bF a b hWF hWE, hIF, hI⟩

theorem finishWilson_close {ε : ℝ} (confF : Confidence (RR fl)) (conf : Confidence Rex)
    (hkind : confF.kind = conf.kind) (mF sF : RR fl) (m s : Rex)
    (h1 : |fl (mF.val - sF.val) - (m.val - s.val)| ≤ ε)
    (h2 : |fl (mF.val + sF.val) - (m.val + s.val)| ≤ ε) :
    WilsonClose ε (Proportion.finishWilson confF mF sF) (Proportion.finishWilson conf m s) := by
  intro aF bF a b hF hE
  rw [WilsonRound.finishWilson_eq_fl] at hF hE
  split_ifs at hF hE
  cases hF
  cases hE
  rw [hkind]
  exact WilsonRound.wEnds_close conf.kind h1 h2

/-- a rounding function that moves the single value `a` to `b` and is exact elsewhere -/
noncomputable def nudge (a b : ℝ) : ℝ → ℝ := fun x => if x = a then b else x

theorem nudge_at (a b : ℝ) : nudge a b a = b := by simp [nudge]

theorem nudge_of_ne {a b x : ℝ} (h : x ≠ a) : nudge a b x = x := by simp [nudge, h]

theorem rounds_nudge {a b u : ℝ} (n : ℕ) (hu : 0 ≤ u) (hab : |b - a| ≤ u * |a|) (k : ℕ)
    (hk : (k : ℝ) < a ∧ a < k + 1) : Rounds (nudge a b) u n := by
  have hnat (m : ℕ) : (m : ℝ) ≠ a := by
    rintro rfl
    have h1 : k < m := by exact_mod_cast hk.1
    have h2 : m < k + 1 := by exact_mod_cast hk.2
    omega
  refine ⟨hu, fun x => ?_, fun m _ => nudge_of_ne (hnat m)⟩
  by_cases hx : x = a
  · rw [hx, nudge_at]; exact hab
  · rw [nudge_of_ne hx, sub_self, abs_zero]; exact mul_nonneg hu (abs_nonneg x)

theorem rankFl_nudge {a b u p : ℝ} {n m : ℕ} (hR : Rounds (nudge a b) u n) (h : p * n = a)
    (h1 : (m : ℝ) ≤ b) (h2 : b < m + 1) (hm : m ≤ n - 1) : rankFl (nudge a b) n p = m := by
  unfold rankFl
  rw [hR.nat n le_rfl, h, nudge_at, (Nat.floor_eq_iff ((Nat.cast_nonneg m).trans h1)).mpr ⟨h1, h2⟩]
  exact min_eq_left hm

theorem succFl_of_mul_eq {u q : ℝ} {n k : ℕ} (hR : Rounds fl u n) (hk : k ≤ n)
    (h : q * n = k) : succFl fl q n = k := by
  unfold succFl
  rw [hR.nat n le_rfl, h, hR.nat k hk, round_natCast]; rfl

/-! ### concrete rounding functions for the non-vacuity examples of C03R -/

theorem probOk_lower_example :
    probOk (Confidence.lower (inj (9 / 10) : RR fl)).quantile = true :=
  (RR.probOk_iff _).mpr (show (0 : ℝ) ≤ 9 / 10 ∧ (9 / 10 : ℝ) ≤ 1 by norm_num)

/-- moves the product `3.001` just below `3`; exact elsewhere -/
noncomputable def flIdx : ℝ → ℝ := nudge (3001 / 1000) (2999 / 1000)

theorem rounds_flIdx : Rounds flIdx (1 / 1000) 10 := by
  refine rounds_nudge 10 (by norm_num) ?_ 3 (by constructor <;> norm_num)
  rw [abs_le]; constructor <;> norm_num

theorem rankFl_flIdx : rankFl flIdx 10 (3001 / 10000) = 2 :=
  rankFl_nudge rounds_flIdx (by norm_num) (by norm_num) (by norm_num) (by norm_num)

theorem rank_idx : rank 10 (3001 / 10000) = 3 := by
  apply rank_eq_of <;> norm_num

/-- moves the product `2.4999` just above `2.5`; exact elsewhere -/
noncomputable def flRnd : ℝ → ℝ := nudge (24999 / 10000) (25001 / 10000)

theorem rounds_flRnd : Rounds flRnd (1 / 1000) 10 := by
  refine rounds_nudge 10 (by norm_num) ?_ 2 (by constructor <;> norm_num)
  rw [abs_le]; constructor <;> norm_num

theorem succFl_flRnd : succFl flRnd (24999 / 100000) 10 = 3 := by
  unfold succFl
  rw [rounds_flRnd.nat 10 le_rfl]
  have e : (24999 / 100000 : ℝ) * ((10 : ℕ) : ℝ) = 24999 / 10000 := by norm_num
  rw [e, flRnd, nudge_at]
  have : round (25001 / 10000 : ℝ) = ((3 : ℕ) : ℤ) :=
    round_eq_of_near (by rw [abs_lt]; constructor <;> norm_num)
  rw [this]; rfl

theorem successes_rnd : successes (24999 / 100000) 10 = 2 := by
  unfold successes
  have : round ((24999 / 100000 : ℝ) * ((10 : ℕ) : ℝ)) = ((2 : ℕ) : ℤ) :=
    round_eq_of_near (by rw [abs_lt]; constructor <;> norm_num)
  rw [this]; rfl

section fl16
open Proportion

/-- moves the product `12.8` up to `13`; exact elsewhere -/
noncomputable def fl16 : ℝ → ℝ := nudge (64 / 5) 13

theorem rounds_fl16 : Rounds fl16 (1 / 64) 16 := by
  refine rounds_nudge 16 (by norm_num) ?_ 12 (by constructor <;> norm_num)
  rw [abs_le]; constructor <;> norm_num

theorem sqrt_25 : Real.sqrt 25 = 5 := by
  rw [show (25 : ℝ) = 5 ^ 2 by norm_num, Real.sqrt_sq (by norm_num)]

theorem sqrt_4 : Real.sqrt 4 = 2 := by
  rw [show (4 : ℝ) = 2 ^ 2 by norm_num, Real.sqrt_sq (by norm_num)]

theorem centre_fl16 :
    wilsonCentre (Scalar.ofNat 16 : RR fl16) (Scalar.ofNat 8) (inj 3) = inj (1 / 2) := by
  apply RR.ext'
  simp [wilsonCentre]
  norm_num [fl16, nudge]

theorem span_fl16 :
    wilsonSpan (Scalar.ofNat 16 : RR fl16) (Scalar.ofNat 8) (inj 3) = inj (3 / 10) := by
  apply RR.ext'
  simp [wilsonSpan]
  norm_num [fl16, nudge, sqrt_25, sqrt_4]

theorem ciWilson_fl16 :
    Proportion.ciWilson (constCrit 3 : Crit (RR fl16)) (.lower (inj (9 / 10))) 16 8 =
      .ok (.twoSided (inj 0) (inj (4 / 5))) := by
  rw [Proportion.ciWilson_dom _ _ 16 8 (by norm_num) (by norm_num), if_pos probOk_lower_example,
    show (constCrit 3 : Crit (RR fl16)) _ = inj 3 from rfl, centre_fl16, span_fl16,
    WilsonRound.finishWilson_eq_fl]
  norm_num [WilsonRound.wLo, WilsonRound.wHi, Confidence.kind, fl16, nudge, inj]

theorem succFl_fl16 : succFl fl16 (1 / 2) 16 = 8 :=
  succFl_of_mul_eq rounds_fl16 (by norm_num) (by norm_num)

theorem rankFl_fl16 : rankFl fl16 16 (4 / 5) = 13 :=
  rankFl_nudge rounds_fl16 (by norm_num) (by norm_num) (by norm_num) (by norm_num)

theorem successes_half_16 : successes (inj (1 / 2) : Rex).val 16 = 8 :=
  successes_of_mul_eq (q := 1 / 2) (by norm_num)

theorem sqrtD_16_8_3 : Real.sqrt (D ((16 : ℕ) : ℝ) ((8 : ℕ) : ℝ) 3) = 5 / 2 := by
  rw [show D ((16 : ℕ) : ℝ) ((8 : ℕ) : ℝ) 3 = (5 / 2) ^ 2 by norm_num [D],
    Real.sqrt_sq (by norm_num)]

theorem pHigh_16_8_3 : pHigh 16 8 3 = 4 / 5 := by
  rw [(pLow_pHigh_eq 16 8 3).2, sqrtD_16_8_3]; norm_num

theorem pLow_16_8_3 : pLow 16 8 3 = 1 / 5 := by
  rw [(pLow_pHigh_eq 16 8 3).1, sqrtD_16_8_3]; norm_num

theorem rank_16 : rank 16 (4 / 5) = 12 := by
  apply rank_eq_of <;> norm_num

theorem ciIndices_fl16 :
    Quantile.ciIndices (constCrit 3 : Crit (RR fl16)) (.lower (inj (9 / 10))) 16 (inj (1 / 2)) =
      .ok (.lower 13) := by
  rw [ciIndices_of_wilson _ _ 16 (inj (1 / 2)) (by constructor <;> norm_num) (by norm_num)
    succFl_fl16 _ _ ciWilson_fl16]
  simp only [inj_val, rankFl_fl16]

theorem ciWilson_ex16 :
    Proportion.ciWilson (constCrit 3 : Crit Rex) (.lower (inj (9 / 10))) 16 8 =
      .ok (.twoSided (inj 0) (inj (4 / 5))) := by
  rw [Wilson.ciWilson_rex _ _ 16 8 (by norm_num) (by norm_num) probOk_lower_example,
    if_neg (fun h => Bool.false_ne_true h.1)]
  have hz : zOf (constCrit 3 : Crit Rex) (.lower (inj (9 / 10))) = 3 := rfl
  have hp : Wilson.centre ((16 : ℕ) : ℝ) ((8 : ℕ) : ℝ) 3 + Wilson.span ((16 : ℕ) : ℝ) ((8 : ℕ) : ℝ) 3
      = 4 / 5 := pHigh_16_8_3
  simp only [hz, propShape, hp]
  rfl

theorem ciIndices_ex16 :
    Quantile.ciIndices (constCrit 3 : Crit Rex) (.lower (inj (9 / 10))) 16 (inj (1 / 2)) =
      .ok (.lower 12) := by
  rw [ciIndices_of_wilson (fl := id) _ _ 16 (inj (1 / 2)) (by constructor <;> norm_num)
    (by norm_num) successes_half_16 _ _ ciWilson_ex16]
  simp only [inj_val, rankFl_id, rank_16]

end fl16

section flC
open Proportion

/-- moves the sum `0.8` up to `1.1` (relative error `3/8`); exact elsewhere -/
noncomputable def flC : ℝ → ℝ := nudge (4 / 5) (11 / 10)

theorem rounds_flC : Rounds flC (1 / 2) 16 := by
  refine rounds_nudge 16 (by norm_num) ?_ 0 (by constructor <;> norm_num)
  rw [abs_le]; constructor <;> norm_num

theorem centre_flC :
    wilsonCentre (Scalar.ofNat 16 : RR flC) (Scalar.ofNat 8) (inj 3) = inj (1 / 2) := by
  apply RR.ext'
  simp [wilsonCentre]
  norm_num [flC, nudge]

theorem span_flC :
    wilsonSpan (Scalar.ofNat 16 : RR flC) (Scalar.ofNat 8) (inj 3) = inj (3 / 10) := by
  apply RR.ext'
  simp [wilsonSpan]
  norm_num [flC, nudge, sqrt_25, sqrt_4]

theorem unclamped_flC :
    (add (wilsonCentre (Scalar.ofNat 16 : RR flC) (Scalar.ofNat 8) (inj 3))
      (wilsonSpan (Scalar.ofNat 16 : RR flC) (Scalar.ofNat 8) (inj 3))).val = 11 / 10 := by
  rw [centre_flC, span_flC]
  norm_num [flC, nudge]

theorem ciWilson_flC :
    Proportion.ciWilson (constCrit 3 : Crit (RR flC)) (.lower (inj (9 / 10))) 16 8 =
      .ok (.twoSided (inj 0) (inj 1)) := by
  rw [Proportion.ciWilson_dom _ _ 16 8 (by norm_num) (by norm_num), if_pos probOk_lower_example,
    show (constCrit 3 : Crit (RR flC)) _ = inj 3 from rfl, centre_flC, span_flC,
    WilsonRound.finishWilson_eq_fl]
  norm_num [WilsonRound.wLo, WilsonRound.wHi, Confidence.kind, flC, nudge, inj]

theorem succFl_flC : succFl flC (1 / 2) 16 = 8 :=
  succFl_of_mul_eq rounds_flC (by norm_num) (by norm_num)

theorem rankFl_flC : rankFl flC 16 1 = 15 := by
  unfold rankFl
  rw [rounds_flC.nat 16 le_rfl, one_mul, rounds_flC.nat 16 le_rfl, Nat.floor_natCast]
  rfl

/-- `ci_indices` at `RR flC` succeeds with the last position (the unclamped `1.1` would be
    `IndexError(1.1, 16)`) -/
theorem ciIndices_flC :
    Quantile.ciIndices (constCrit 3 : Crit (RR flC)) (.lower (inj (9 / 10))) 16 (inj (1 / 2)) =
      .ok (.lower 15) := by
  rw [ciIndices_of_wilson _ _ 16 (inj (1 / 2)) (by constructor <;> norm_num) (by norm_num)
    succFl_flC _ _ ciWilson_flC]
  simp only [inj_val, rankFl_flC]

end flC

end RankRound
end StatsCI
