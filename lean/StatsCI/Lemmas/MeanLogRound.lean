/-
  StatsCI.Lemmas.MeanLogRound — forward rounding-error bounds for the geometric and harmonic mean
  intervals of the model at the carrier `RR fl` (C05R).

  At `RR fl` the log-space / reciprocal-space state is the `Arith` state of the *rounded*
  transformed data `fl (ln x)` / `fl (1/x)` (`MeanLog`: `Geometric/Harmonic.fromList_inj`), an
  entrywise relative perturbation of the exact ones (`RelClose`, whose effect on `smean`, `ssd`,
  `Σ|y|`, `Σy²` is in `SampleStats`): `MeanRound.interval_step` is fed the computed mean and standard
  deviation against the statistics of the *exact* list. Last, what `Geometric::ci` and
  `Harmonic::ci` return at `RR fl` in terms of the two computed bounds (the back-transforms `exp`
  and `1/·` are analysed in C05R).
-/
import StatsCI.Lemmas.MeanRound
import StatsCI.Lemmas.MeanLog

namespace StatsCI.MeanLogRound
open StatsCI KahanLemmas MeanLemmas MeanRound NumOps Scalar Rounding

variable {fl : ℝ → ℝ} {u : ℝ}

/-- the rounded logarithms `fl (ln x)` the log-space state is fed at `RR fl` -/
noncomputable def flLogs (fl : ℝ → ℝ) (xs : List ℝ) : List ℝ := (xs.map Real.log).map fl

/-- the rounded reciprocals `fl (1/x)` the reciprocal-space state is fed at `RR fl` -/
noncomputable def flRecips (fl : ℝ → ℝ) (xs : List ℝ) : List ℝ := (xs.map (fun x => 1 / x)).map fl

theorem flLogs_length (xs : List ℝ) : (flLogs fl xs).length = xs.length := by simp [flLogs]
theorem flRecips_length (xs : List ℝ) : (flRecips fl xs).length = xs.length := by simp [flRecips]

/-- the error bound of a bound of the transformed-space interval, with `Δ` a bound on the error of
    the computed standard deviation against the exact standard deviation of the *rounded* list
    (`ys` is the exact list). The first three terms are `MeanRound.interval_step` at `k' = 17`; the
    last is `(1 + 8u)·c/√n` times the distance `u·√(Σy²/(n−1))` between the standard deviations of
    the rounded and of the exact list (`RelClose.ssd_close`), `(1 + 8u)·u ≤ 2u` -/
noncomputable def spaceErr (u c Δ : ℝ) (ys : List ℝ) : ℝ :=
  17 * u * (sumAbs ys / ys.length) + (1 + 8 * u) * (c * (Δ / Real.sqrt ys.length))
    + 7 * u * (c * (ssd ys / Real.sqrt ys.length))
    + 2 * u * (c * (Real.sqrt (sumSq ys / ((ys.length : ℝ) - 1)) / Real.sqrt ys.length))

/-- closed form valid for every sample (`spaceErr_le_sqrt`) -/
noncomputable def spaceErrSqrt (u c : ℝ) (ys : List ℝ) : ℝ :=
  17 * u * (sumAbs ys / ys.length)
    + 8 * (c * (Real.sqrt (u * (sumSq ys / ((ys.length : ℝ) - 1))) / Real.sqrt ys.length))
    + 7 * u * (c * (ssd ys / Real.sqrt ys.length))
    + 2 * u * (c * (Real.sqrt (sumSq ys / ((ys.length : ℝ) - 1)) / Real.sqrt ys.length))

/-- `κ`-form, first order in `u`: `95u·(Σ|y|/n + c·s/√n·(1 + κ))`, `κ = Σy²/((n−1)·s²)` -/
noncomputable def spaceErrKappa (u c : ℝ) (ys : List ℝ) : ℝ :=
  95 * u * (sumAbs ys / ys.length + c * (ssd ys / Real.sqrt ys.length) *
    (1 + sumSq ys / ((ys.length : ℝ) - 1) / svar ys))

theorem spaceErr_zero (c Δ : ℝ) (ys : List ℝ) :
    spaceErr 0 c Δ ys = c * (Δ / Real.sqrt ys.length) := by
  unfold spaceErr; ring

theorem spaceErrSqrt_zero (c : ℝ) (ys : List ℝ) : spaceErrSqrt 0 c ys = 0 := by
  unfold spaceErrSqrt; simp

theorem spaceErrKappa_zero (c : ℝ) (ys : List ℝ) : spaceErrKappa 0 c ys = 0 := by
  unfold spaceErrKappa; simp

/-- `exLo`, `exHi`: the bounds `ȳ ∓ c·s/√n` of the arithmetic interval of a real list at exact
    arithmetic (`Arith.ci_rex_const`) -/
noncomputable def exLo (c : ℝ) (ys : List ℝ) : ℝ := smean ys - c * (ssd ys / Real.sqrt ys.length)

noncomputable def exHi (c : ℝ) (ys : List ℝ) : ℝ := smean ys + c * (ssd ys / Real.sqrt ys.length)

theorem exLo_le_exHi {c : ℝ} (hc : 0 ≤ c) (ys : List ℝ) : exLo c ys ≤ exHi c ys := by
  have : 0 ≤ c * (ssd ys / Real.sqrt ys.length) :=
    mul_nonneg hc (div_nonneg (Real.sqrt_nonneg _) (Real.sqrt_nonneg _))
  exact (sub_le_self _ this).trans (le_add_of_nonneg_right this)

/-- `E` dominates one of the two proved bounds on the error of the transformed-space interval:
    the closed form `spaceErrSqrt` (every sample), or the first-order form `spaceErrKappa`
    (for `s² > 0` and `u·√(Σy²/(n−1)) ≤ s/2`) -/
def SpaceErrBound (u c : ℝ) (ys : List ℝ) (E : ℝ) : Prop :=
  spaceErrSqrt u c ys ≤ E ∨
    (0 < svar ys ∧ u * Real.sqrt (sumSq ys / ((ys.length : ℝ) - 1)) ≤ ssd ys / 2 ∧
      spaceErrKappa u c ys ≤ E)

/-- `Δ = 7·(1 + u)·√(u·Y)`, `Y = Σy²/(n−1)`, gives the closed form: `(1 + 8u)·7·(1 + u) ≤ 8` -/
theorem spaceErr_le_sqrt (hu : 0 ≤ u) (hu' : u ≤ 1 / 2048) {c : ℝ} (hc : 0 ≤ c) (ys : List ℝ) :
    spaceErr u c (7 * ((1 + u) * Real.sqrt (u * (sumSq ys / ((ys.length : ℝ) - 1))))) ys ≤
      spaceErrSqrt u c ys := by
  unfold spaceErr spaceErrSqrt
  have m := mul_le_mul_of_nonneg_right
    (by linear_combination 56 * mul_le_mul_of_nonneg_right hu' hu + (63 + 56 / 2048) * hu' :
      (1 + 8 * u) * (7 * (1 + u)) ≤ 8)
    (mul_nonneg hc (div_nonneg (Real.sqrt_nonneg (u * (sumSq ys / ((ys.length : ℝ) - 1))))
      (Real.sqrt_nonneg (ys.length : ℝ))))
  linear_combination m

/-- `Δ = 93u·Y/s` gives the `κ`-form (`kappa_le`) -/
theorem spaceErr_le_kappa (hu : 0 ≤ u) (hu' : u ≤ 1 / 2048) {c : ℝ} (hc : 0 ≤ c) (ys : List ℝ)
    (hn : 2 ≤ ys.length) (hpos : 0 < svar ys) :
    spaceErr u c (93 * u * (sumSq ys / ((ys.length : ℝ) - 1)) / ssd ys) ys ≤
      spaceErrKappa u c ys := by
  have hsd : 0 < ssd ys := Real.sqrt_pos.mpr hpos
  have hk := kappa_le hu hu' (a := 17) (d := 93) (g := 2) (K := 95)
    (div_nonneg (sumAbs_nonneg ys) (Nat.cast_nonneg ys.length)) (sumSq_div_nonneg ys hn)
    hsd (Real.sqrt_pos.mpr (natCast_pos hn)) hc (by norm_num) (by norm_num)
    (by norm_num) (by norm_num) (by norm_num)
  rwa [ssd_mul_self ys (by omega)] at hk

section space
variable (hfl : ∀ x, |fl x - x| ≤ u * |x|) (hu : 0 ≤ u) {ys yt : List ℝ}
  (hrc : RelClose u ys yt) (hn : 2 ≤ ys.length) (hs : (ys.length : ℝ) * u ≤ 1 / 1024)
  (hnat : ∀ m : ℕ, m ≤ ys.length → fl m = m)
include hfl hu hrc hn hs hnat

/-- `MeanRound.mean_bound` on the perturbed list against the mean of the exact list:
    `13u·(1 + u) + u ≤ 15u` -/
theorem mean_bound_of_relClose :
    |(Arith.fromList (yt.map inj) : Arith (RR fl)).mean.val - smean ys| ≤
      15 * u * (sumAbs ys / ys.length) := by
  have hlen : yt.length = ys.length := hrc.length_eq.symm
  have hN0 : (0 : ℝ) ≤ ys.length := Nat.cast_nonneg _
  have h1 := mean_bound hfl hu yt (hlen ▸ hn) (hlen ▸ hs) (hlen ▸ hnat)
  rw [hlen] at h1
  have h3 := trans_close h1 (hrc.smean_close (by omega))
  have hXt : sumAbs yt / (ys.length : ℝ) ≤ (1 + u) * (sumAbs ys / (ys.length : ℝ)) := by
    rw [← mul_div_assoc]
    exact div_le_div_of_nonneg_right hrc.sumAbs_le hN0
  have h4 := mul_le_mul_of_nonneg_left hXt (mul_nonneg (by norm_num) hu : 0 ≤ 13 * u)
  have h5 := mul_le_mul_of_nonneg_right
    (by linear_combination 13 * mul_le_mul_of_nonneg_left (u_small hu hn hs) hu
        + (1 - 13 / 2048) * hu : 13 * u * (1 + u) + u ≤ 15 * u) (div_nonneg (sumAbs_nonneg ys) hN0)
  linear_combination h3 + h4 + h5

theorem space_bounds_of_le (c : ℝ) (hc : 0 ≤ c) {Δ : ℝ}
    (hΔ : |(Arith.fromList (yt.map inj) : Arith (RR fl)).stdDev.val - ssd yt| ≤ Δ) :
    |loFl (fl := fl) (Arith.fromList (yt.map inj)) c - exLo c ys| ≤ spaceErr u c Δ ys ∧
    |hiFl (fl := fl) (Arith.fromList (yt.map inj)) c - exHi c ys| ≤ spaceErr u c Δ ys := by
  have hu' := u_small hu hn hs
  have hR : 0 < Real.sqrt ys.length := Real.sqrt_pos.mpr (natCast_pos hn)
  set Y := Real.sqrt (sumSq ys / ((ys.length : ℝ) - 1)) with hY
  have hsd := trans_close hΔ (hrc.ssd_close hu hn)
  obtain ⟨b1, b2⟩ := interval_step hfl hu hu' (Arith.fromList (yt.map inj) : Arith (RR fl))
    (by rw [fromList_count', hrc.length_eq]) hn hc (Real.sqrt_nonneg (svar ys)) (abs_smean_le ys)
    (by norm_num) (by norm_num : (15 : ℝ) + 1 + 15 / 2048 ≤ 17)
    (mean_bound_of_relClose hfl hu hrc hn hs hnat) hsd
  -- `(1 + 8u)·u ≤ 2u` on the part of the error that comes from rounding the data
  have hG : 0 ≤ c * (Y / Real.sqrt ys.length) :=
    mul_nonneg hc (div_nonneg (Real.sqrt_nonneg _) hR.le)
  have hle := mul_le_mul_of_nonneg_right
    (by linear_combination 8 * mul_le_mul_of_nonneg_left hu' hu + (1 - 8 / 2048) * hu :
      (1 + 8 * u) * u ≤ 2 * u) hG
  have hfin : 17 * u * (sumAbs ys / ys.length)
      + (1 + 8 * u) * (c * ((Δ + u * Y) / Real.sqrt ys.length))
      + 7 * u * (c * (Real.sqrt (svar ys) / Real.sqrt ys.length)) ≤ spaceErr u c Δ ys := by
    unfold spaceErr ssd
    linear_combination hle
  exact ⟨b1.trans hfin, b2.trans hfin⟩

/-- `MeanRound.stdDev_bound` on the perturbed list, with `Y = Σy²/(n−1)` of the exact list:
    `Σỹ² ≤ (1+u)²·Σy²` -/
theorem stdDev_bound_of_relClose :
    |(Arith.fromList (yt.map inj) : Arith (RR fl)).stdDev.val - ssd yt| ≤
      7 * ((1 + u) * Real.sqrt (u * (sumSq ys / ((ys.length : ℝ) - 1)))) ∧
    |(Arith.fromList (yt.map inj) : Arith (RR fl)).stdDev.val - ssd yt| * ssd yt ≤
      46 * u * ((1 + u) * (1 + u) * (sumSq ys / ((ys.length : ℝ) - 1))) := by
  have hlen : yt.length = ys.length := hrc.length_eq.symm
  have hM0 : (0 : ℝ) < (ys.length : ℝ) - 1 := natCast_sub_one_pos hn
  obtain ⟨h1, h2⟩ := stdDev_bound hfl hu yt (hlen ▸ hn) (hlen ▸ hs) (hlen ▸ hnat)
  rw [hlen] at h1 h2
  have hYt : sumSq yt / ((ys.length : ℝ) - 1) ≤
      (1 + u) * (1 + u) * (sumSq ys / ((ys.length : ℝ) - 1)) := by
    rw [← mul_div_assoc]
    exact div_le_div_of_nonneg_right (hrc.sumSq_le hu) hM0.le
  constructor
  · refine h1.trans (mul_le_mul_of_nonneg_left ?_ (by norm_num))
    have h3 := Real.sqrt_le_sqrt (mul_le_mul_of_nonneg_left hYt hu)
    rwa [mul_left_comm, Real.sqrt_mul (mul_self_nonneg _),
      Real.sqrt_mul_self (add_nonneg zero_le_one hu)] at h3
  · exact h2.trans (mul_le_mul_of_nonneg_left hYt (mul_nonneg (by norm_num) hu))

/-- for `s² > 0` and `u·√Y ≤ s/2` (`Y = Σy²/(n−1)`) the standard deviation of the rounded list stays
    above `s/2`: `|ŝ − s̃|·s/2 ≤ |ŝ − s̃|·s̃ ≤ 46u·(1+u)²·Y`, and `46·(1+u)² ≤ 46.5` -/
theorem stdDev_bound_kappa (hpos : 0 < svar ys)
    (hsmall : u * Real.sqrt (sumSq ys / ((ys.length : ℝ) - 1)) ≤ ssd ys / 2) :
    |(Arith.fromList (yt.map inj) : Arith (RR fl)).stdDev.val - ssd yt| ≤
      93 * u * (sumSq ys / ((ys.length : ℝ) - 1)) / ssd ys := by
  have hu' := u_small hu hn hs
  have hY := sumSq_div_nonneg ys hn
  have hst : ssd ys / 2 ≤ ssd yt := by
    linear_combination (abs_le.mp (hrc.ssd_close hu hn)).1 + hsmall
  have hsd : 0 < ssd ys := Real.sqrt_pos.mpr hpos
  rw [le_div_iff₀ hsd]
  have h1 := mul_le_mul_of_nonneg_left hst
    (abs_nonneg ((Arith.fromList (yt.map inj) : Arith (RR fl)).stdDev.val - ssd yt))
  have h2 := mul_le_mul_of_nonneg_right
    (by linear_combination 46 * mul_le_mul_of_nonneg_right hu' hu + (92 + 46 / 2048) * hu' :
      46 * ((1 + u) * (1 + u)) ≤ 46.5) (mul_nonneg hu hY)
  linear_combination 2 * h1 + 2 * h2 + 2 * (stdDev_bound_of_relClose hfl hu hrc hn hs hnat).2

theorem space_bounds (c : ℝ) (hc : 0 ≤ c) {E : ℝ} (hE : SpaceErrBound u c ys E) :
    |loFl (fl := fl) (Arith.fromList (yt.map inj)) c - exLo c ys| ≤ E ∧
    |hiFl (fl := fl) (Arith.fromList (yt.map inj)) c - exHi c ys| ≤ E := by
  have hu' := u_small hu hn hs
  obtain ⟨Δ, hΔ, hle⟩ : ∃ Δ,
      |(Arith.fromList (yt.map inj) : Arith (RR fl)).stdDev.val - ssd yt| ≤ Δ ∧
        spaceErr u c Δ ys ≤ E := by
    rcases hE with hE | ⟨h1, h2, hE⟩
    · exact ⟨_, (stdDev_bound_of_relClose hfl hu hrc hn hs hnat).1,
        (spaceErr_le_sqrt hu hu' hc ys).trans hE⟩
    · exact ⟨_, stdDev_bound_kappa hfl hu hrc hn hs hnat h1 h2,
        (spaceErr_le_kappa hu hu' hc ys hn h1).trans hE⟩
  obtain ⟨b1, b2⟩ := space_bounds_of_le hfl hu hrc hn hs hnat c hc hΔ
  exact ⟨b1.trans hle, b2.trans hle⟩

end space

/-- the test in front is the `Interval::new` of the log-space interval; the constructor of the kind
    then runs again, on the back-transformed ends (`bind_intervalOfKind_read`) -/
theorem Geometric.ci_fl (xs : List ℝ) (hpos : ∀ x ∈ xs, 0 < x) (hn : 2 ≤ xs.length)
    (hnat : ∀ m : ℕ, m ≤ xs.length → fl m = m) (c : ℝ) (conf : Confidence (RR fl))
    (hp : probOk conf.quantile = true) :
    Geometric.ci (constCrit c) conf (xs.map inj) =
      if conf.isTwoSided = true ∧ hiFl (fl := fl) (Arith.fromList ((flLogs fl xs).map inj)) c <
          loFl (fl := fl) (Arith.fromList ((flLogs fl xs).map inj)) c then
        .err (.interval .invalidBounds)
      else intervalOfKind conf
        (Scalar.exp (⟨loFl (fl := fl) (Arith.fromList ((flLogs fl xs).map inj)) c⟩ : RR fl))
        (Scalar.exp ⟨hiFl (fl := fl) (Arith.fromList ((flLogs fl xs).map inj)) c⟩) := by
  have hcount := fromList_count' (fl := fl) (flLogs fl xs)
  rw [flLogs_length] at hcount
  unfold Geometric.ci
  rw [Geometric.fromList_inj xs hpos, Outcome.bind_ok]
  unfold Geometric.ciMean
  rw [← flLogs, ciMean_fl (constCrit c) _ conf (by rw [hcount]; exact hn) (by rw [hcount]; exact hnat) hp,
    bind_intervalOfKind_read]
  simp only [Bool.and_eq_true, RR.gt_iff, constCrit]

/-- the same with the reciprocal-space interval, built at the flipped confidence; the ends are
    exchanged (`1/·` reverses the order) -/
theorem Harmonic.ci_fl (xs : List ℝ) (hpos : ∀ x ∈ xs, 0 < x) (hn : 2 ≤ xs.length)
    (hnat : ∀ m : ℕ, m ≤ xs.length → fl m = m) (c : ℝ) (conf : Confidence (RR fl))
    (hp : probOk conf.quantile = true) :
    Harmonic.ci (constCrit c) conf (xs.map inj) =
      if conf.isTwoSided = true ∧ hiFl (fl := fl) (Arith.fromList ((flRecips fl xs).map inj)) c <
          loFl (fl := fl) (Arith.fromList ((flRecips fl xs).map inj)) c then
        .err (.interval .invalidBounds)
      else intervalOfKind conf
        (Harmonic.recipBound
          (⟨hiFl (fl := fl) (Arith.fromList ((flRecips fl xs).map inj)) c⟩ : RR fl))
        (Harmonic.recipBound ⟨loFl (fl := fl) (Arith.fromList ((flRecips fl xs).map inj)) c⟩) := by
  have hcount := fromList_count' (fl := fl) (flRecips fl xs)
  rw [flRecips_length] at hcount
  have hp' : probOk conf.flipped.quantile = true := by rwa [conf.flipped_quantile]
  unfold Harmonic.ci
  rw [Harmonic.fromList_inj xs hpos, Outcome.bind_ok]
  unfold Harmonic.ciMean
  rw [← flRecips, ciMean_fl (constCrit c) _ conf.flipped (by rw [hcount]; exact hn) (by rw [hcount]; exact hnat) hp',
    bind_intervalOfKind_read_flipped]
  simp only [Bool.and_eq_true, RR.gt_iff, constCrit]

theorem Harmonic.ci_fl_upper (xs : List ℝ) (hpos : ∀ x ∈ xs, 0 < x) (hn : 2 ≤ xs.length)
    (hnat : ∀ m : ℕ, m ≤ xs.length → fl m = m) (c : ℝ) (l : RR fl)
    (hp : probOk (Confidence.upper l).quantile = true) :
    Harmonic.ci (constCrit c) (.upper l) (xs.map inj) =
      .ok (.upper (Harmonic.recipBound
        (⟨hiFl (fl := fl) (Arith.fromList ((flRecips fl xs).map inj)) c⟩ : RR fl))) := by
  rw [Harmonic.ci_fl xs hpos hn hnat c _ hp]; rfl

theorem Harmonic.ci_fl_lower (xs : List ℝ) (hpos : ∀ x ∈ xs, 0 < x) (hn : 2 ≤ xs.length)
    (hnat : ∀ m : ℕ, m ≤ xs.length → fl m = m) (c : ℝ) (l : RR fl)
    (hp : probOk (Confidence.lower l).quantile = true) :
    Harmonic.ci (constCrit c) (.lower l) (xs.map inj) =
      .ok (.lower (Harmonic.recipBound
        (⟨loFl (fl := fl) (Arith.fromList ((flRecips fl xs).map inj)) c⟩ : RR fl))) := by
  rw [Harmonic.ci_fl xs hpos hn hnat c _ hp]; rfl

end StatsCI.MeanLogRound
