/-
  StatsCI.Lemmas.UnpairedRound — forward rounding-error bounds for the two comparison producers
  `Paired` and `Unpaired` at the carrier `RR fl` (C04R).

  * paired: the state built at `RR fl` is the `Arith` state of the rounded differences;
  * unpaired, any state: what `Unpaired.ciPrep` computes at `RR fl`. `s2nFl`, `diffFl`, `seFl`,
    `dofClFl` are the values, as real numbers, of the model's `Unpaired.s2n`, `meanDiff`, `semF`,
    `dofF` (EntryPoints.lean, any carrier), written as the rounded formulas the bounds speak of
    (equal by `rfl`: this is how `ciPrep_fl` reads `Unpaired.prepOf`); `sumS2nFl` and `dofFl` name two
    values on the way, the rounded sum under the square root and the Welch value before the crate's
    lower clamp. Then signs and the clamp, and the outcomes of `Unpaired.ciMean`;
  * unpaired, two real samples: the chains mean difference, `s²/n`, sum, standard error, interval
    bounds for a constant critical value, counted in units (`Rounding.fl_step`);
  * the effective degrees of freedom, a quotient of sums of non-negative terms, on the logarithmic
    scale `Rounding.Mult`: the chain of `Unpaired.effectiveDof`, one error bound for any state
    (`dofFl_error`) with positivity.
-/
import StatsCI.Lemmas.MeanRound
import StatsCI.Lemmas.MeanUnpaired

namespace StatsCI.UnpairedRound
open StatsCI KahanLemmas MeanLemmas MeanRound MeanLogRound NumOps Scalar Rounding

variable {fl : ℝ → ℝ} {u : ℝ}

def diffs (as bs : List ℝ) : List ℝ := List.zipWith (fun a b => a - b) as bs

/-- the rounded differences `fl (aᵢ − bᵢ)`: what `Paired::append_pair` and `Paired::extend` feed
    to the statistics (`self.stats.append(a - b)`) -/
def flDiffs (fl : ℝ → ℝ) (as bs : List ℝ) : List ℝ := (diffs as bs).map fl

theorem diffs_length (as bs : List ℝ) (h : as.length = bs.length) :
    (diffs as bs).length = as.length := by
  simp [diffs, h]

theorem flDiffs_length (as bs : List ℝ) (h : as.length = bs.length) :
    (flDiffs fl as bs).length = as.length := by
  simp [flDiffs, diffs_length as bs h]

theorem zipWith_sub_inj (as bs : List ℝ) :
    List.zipWith NumOps.sub (as.map inj) (bs.map (inj : ℝ → RR fl)) =
      (flDiffs fl as bs).map inj := by
  rw [List.zipWith_map, flDiffs, diffs, List.map_map, List.map_zipWith]
  rfl

theorem paired_extend_fl (as bs : List ℝ) (h : as.length = bs.length) :
    (Paired.extend (Paired.empty : Paired (RR fl)) (as.map inj) (bs.map inj) :
        Outcome (Err (RR fl)) (Paired (RR fl)) × Paired (RR fl)) =
      (.ok ⟨Arith.fromList ((flDiffs fl as bs).map inj)⟩,
        ⟨Arith.fromList ((flDiffs fl as bs).map inj)⟩) := by
  unfold Paired.extend
  rw [Paired.extendAux_eq, if_pos (by simpa using h), zipWith_sub_inj]
  rfl

theorem paired_ci_fl (crit : Crit (RR fl)) (conf : Confidence (RR fl)) (as bs : List ℝ)
    (h : as.length = bs.length) :
    Paired.ci crit conf (as.map (inj : ℝ → RR fl)) (bs.map inj) =
      Arith.ci crit conf ((flDiffs fl as bs).map (inj : ℝ → RR fl)) := by
  rw [Paired.ci_eq, if_pos (by simpa using h), zipWith_sub_inj]

/-- the computed `s²/n` of one state: `fl (fl (ŝ·ŝ) / fl n)` with `ŝ` the computed standard
    deviation (the crate squares the rounded square root) -/
noncomputable def s2nFl (a : Arith (RR fl)) : ℝ :=
  (div (mul a.stdDev a.stdDev) (Scalar.ofNat a.count : RR fl)).val

theorem s2nFl_eq (a : Arith (RR fl)) :
    s2nFl a = fl (fl (a.stdDev.val * a.stdDev.val) / fl a.count) := rfl

theorem s2nFl_nonneg (hfl : ∀ x, |fl x - x| ≤ u * |x|) (hu1 : u ≤ 1) (a : Arith (RR fl))
    (hc : fl a.count = a.count) : 0 ≤ s2nFl a := by
  rw [s2nFl_eq, hc]
  exact fl_nonneg hfl hu1 (div_nonneg (fl_nonneg hfl hu1 (mul_self_nonneg _)) (Nat.cast_nonneg _))

/-- a positive computed standard deviation gives a positive computed `s²/n` (no underflow at
    `RR fl`) -/
theorem s2nFl_pos (hfl : ∀ x, |fl x - x| ≤ u * |x|) (hu1 : u < 1) (a : Arith (RR fl))
    (hc : fl a.count = a.count) (hn : 1 ≤ a.count) (hsd : 0 < a.stdDev.val) : 0 < s2nFl a := by
  rw [s2nFl_eq, hc]
  exact fl_pos hfl hu1 (div_pos (fl_pos hfl hu1 (mul_pos hsd hsd)) (Nat.cast_pos.mpr hn))

theorem s2nFl_zero (hfl : ∀ x, |fl x - x| ≤ u * |x|) (a : Arith (RR fl))
    (hsd : a.stdDev.val = 0) : s2nFl a = 0 := by
  rw [s2nFl_eq, hsd, mul_zero, fl_zero hfl, zero_div, fl_zero hfl]

noncomputable def diffFl (U : Unpaired (RR fl)) : ℝ := fl (U.a.mean.val - U.b.mean.val)

noncomputable def sumS2nFl (U : Unpaired (RR fl)) : ℝ := fl (s2nFl U.a + s2nFl U.b)

noncomputable def seFl (U : Unpaired (RR fl)) : ℝ := fl (Real.sqrt (sumS2nFl U))

theorem seFl_both_zero (hfl : ∀ x, |fl x - x| ≤ u * |x|) (U : Unpaired (RR fl))
    (ha : U.a.stdDev.val = 0) (hb : U.b.stdDev.val = 0) : seFl U = 0 := by
  unfold seFl sumS2nFl
  rw [s2nFl_zero hfl U.a ha, s2nFl_zero hfl U.b hb, add_zero, fl_zero hfl, Real.sqrt_zero,
    fl_zero hfl]

/-- the computed effective degrees of freedom: the model's `effectiveDof` on the computed terms -/
noncomputable def dofFl (U : Unpaired (RR fl)) : ℝ :=
  (Unpaired.effectiveDof (⟨s2nFl U.a⟩ : RR fl) ⟨s2nFl U.b⟩ (Scalar.ofNat U.a.count)
    (Scalar.ofNat U.b.count)).val

theorem effectiveDof_fl_val (A B na nb : RR fl) :
    (Unpaired.effectiveDof A B na nb).val =
      fl (fl (fl (fl (fl (A.val + B.val) * fl (A.val + B.val)) /
        fl (fl (fl (A.val * A.val) / fl (na.val + 1))
          + fl (fl (B.val * B.val) / fl (nb.val + 1)))) - 1) - 1) := rfl

/-- both computed standard deviations zero: the computed degrees of freedom are
    `fl (fl (0/0 − 1) − 1) < 0` (real division, `0/0 = 0`) -/
theorem dofFl_both_zero (hfl : ∀ x, |fl x - x| ≤ u * |x|) (hu1 : u < 1) (U : Unpaired (RR fl))
    (ha : U.a.stdDev.val = 0) (hb : U.b.stdDev.val = 0) :
    dofFl U = fl (fl (-1) - 1) ∧ dofFl U < 0 := by
  have e : dofFl U = fl (fl (-1) - 1) := by
    unfold dofFl
    rw [effectiveDof_fl_val]
    simp only [s2nFl_zero hfl U.a ha, s2nFl_zero hfl U.b hb, add_zero, mul_zero, fl_zero hfl,
      zero_div, zero_sub]
  refine ⟨e, ?_⟩
  rw [e]
  have h1 : fl (-1) < 0 := fl_neg hfl hu1 (by norm_num)
  exact fl_neg hfl hu1 (by linear_combination h1)

/-- the degrees of freedom handed on: the computed value `dofFl`, not below the computed bound
    `fl (min (fl na) (fl nb) − 1)` (the crate's lower clamp) -/
noncomputable def dofClFl (U : Unpaired (RR fl)) : ℝ :=
  (Unpaired.clampDof (⟨dofFl U⟩ : RR fl) (Scalar.ofNat U.a.count) (Scalar.ofNat U.b.count)).val

theorem dofClFl_eq (U : Unpaired (RR fl)) :
    dofClFl U = max (dofFl U) (fl (min (fl U.a.count) (fl U.b.count) - 1)) := by
  unfold dofClFl
  rw [Unpaired.clampDof_val]
  simp only [RR.ofNat_val]

theorem dofClFl_of_le (U : Unpaired (RR fl))
    (h : fl (min (fl U.a.count) (fl U.b.count) - 1) ≤ dofFl U) : dofClFl U = dofFl U := by
  rw [dofClFl_eq]; exact max_eq_left h

theorem dofFl_le_dofClFl (U : Unpaired (RR fl)) : dofFl U ≤ dofClFl U := by
  rw [dofClFl_eq]; exact le_max_left _ _

theorem clampFl_le_dofClFl (U : Unpaired (RR fl)) :
    fl (min (fl U.a.count) (fl U.b.count) - 1) ≤ dofClFl U := by
  rw [dofClFl_eq]; exact le_max_right _ _

theorem dofClFl_both_zero (hfl : ∀ x, |fl x - x| ≤ u * |x|) (hu1 : u < 1) (U : Unpaired (RR fl))
    (ha : U.a.stdDev.val = 0) (hb : U.b.stdDev.val = 0)
    (hpos : 0 ≤ fl (min (fl U.a.count) (fl U.b.count) - 1)) :
    dofClFl U = fl (min (fl U.a.count) (fl U.b.count) - 1) := by
  rw [dofClFl_eq]
  exact max_eq_right (le_trans (dofFl_both_zero hfl hu1 U ha hb).2.le hpos)

theorem fl_count_gt_one (hfl : ∀ x, |fl x - x| ≤ u * |x|) (hu : u < 1 / 2) (n : ℕ) (hn : 2 ≤ n) :
    1 < fl (n : ℝ) := by
  have hN : (2 : ℝ) ≤ n := by exact_mod_cast hn
  have h1 := le_fl hfl (natCast_pos hn).le
  have h2 := mul_lt_mul_of_pos_right hu (natCast_pos hn)
  linear_combination h1 + h2 + (1 / 2) * hN

theorem clampFl_pos (hfl : ∀ x, |fl x - x| ≤ u * |x|) (hu : u < 1 / 2) (U : Unpaired (RR fl))
    (hna : 2 ≤ U.a.count) (hnb : 2 ≤ U.b.count) :
    0 < fl (min (fl U.a.count) (fl U.b.count) - 1) := by
  apply fl_pos hfl (hu.trans (by norm_num))
  exact sub_pos.mpr (lt_min (fl_count_gt_one hfl hu _ hna) (fl_count_gt_one hfl hu _ hnb))

theorem dofClFl_exact (U : Unpaired (RR fl)) (hna : 2 ≤ U.a.count) (hnb : 2 ≤ U.b.count)
    (ha : fl U.a.count = U.a.count) (hb : fl U.b.count = U.b.count)
    (hm : fl (min (U.a.count : ℝ) U.b.count - 1) = min (U.a.count : ℝ) U.b.count - 1) :
    dofClFl U = max (dofFl U) (min (U.a.count : ℝ) U.b.count - 1) ∧
    min (U.a.count : ℝ) U.b.count - 1 ≤ dofClFl U ∧ 1 ≤ dofClFl U := by
  have e : dofClFl U = max (dofFl U) (min (U.a.count : ℝ) U.b.count - 1) := by
    rw [dofClFl_eq, ha, hb, hm]
  have h := (le_max_right (dofFl U) _).trans e.ge
  exact ⟨e, h, (one_le_min_sub_one (by exact_mod_cast hna) (by exact_mod_cast hnb)).trans h⟩

theorem dofClFl_sub_clampedDof_le (U : Unpaired (RR fl)) (A B : ℝ) :
    |dofClFl U - clampedDof A B U.a.count U.b.count| ≤
      max |dofFl U - welchDof A B U.a.count U.b.count|
        |fl (min (fl U.a.count) (fl U.b.count) - 1) - (min (U.a.count : ℝ) U.b.count - 1)| := by
  rw [dofClFl_eq, clampedDof]
  exact abs_max_sub_max_le_max _ _ _ _

theorem ciPrep_fl (U : Unpaired (RR fl)) (ha : 2 ≤ U.a.count) (hb : 2 ≤ U.b.count) :
    (Unpaired.ciPrep U : Outcome (Err (RR fl)) (Arith.Prep (RR fl))) =
      .ok ⟨⟨diffFl U⟩, ⟨seFl U⟩, ⟨dofClFl U⟩⟩ :=
  Unpaired.ciPrep_rr_ok U ha hb

theorem ciMean_fl (crit : Crit (RR fl)) (U : Unpaired (RR fl)) (conf : Confidence (RR fl))
    (ha : 2 ≤ U.a.count) (hb : 2 ≤ U.b.count) (hd : 0 < dofClFl U)
    (hp : probOk conf.quantile = true) :
    U.ciMean crit conf =
      intervalOfKind conf
        (⟨fl (diffFl U - fl ((crit (critReq conf (⟨dofClFl U⟩ : RR fl))).val * seFl U))⟩ : RR fl)
        ⟨fl (diffFl U + fl ((crit (critReq conf (⟨dofClFl U⟩ : RR fl))).val * seFl U))⟩ := by
  rw [Unpaired.ciMean_eq_finish, ciPrep_fl U ha hb, finish_rr crit conf _ hd hp]

theorem ciMean_fl_ppanic (crit : Crit (RR fl)) (U : Unpaired (RR fl)) (conf : Confidence (RR fl))
    (ha : 2 ≤ U.a.count) (hb : 2 ≤ U.b.count) (hd : 0 < dofClFl U)
    (hp : probOk conf.quantile = false) :
    U.ciMean crit conf = .panic "inverse_cdf" := by
  rw [Unpaired.ciMean_eq_finish, ciPrep_fl U ha hb, finish_rr_ppanic crit conf _ hd hp]

/-- `StudentsT::new(0, 1, dof).unwrap()` -/
theorem ciMean_fl_tpanic (crit : Crit (RR fl)) (U : Unpaired (RR fl)) (conf : Confidence (RR fl))
    (ha : 2 ≤ U.a.count) (hb : 2 ≤ U.b.count) (hd : dofClFl U ≤ 0)
    (hlim : dofClFl U < fl 100000) :
    U.ciMean crit conf = .panic "t_value" := by
  rw [Unpaired.ciMean_eq_finish, ciPrep_fl U ha hb, finish_ok_eq, if_neg]
  exact fun k => absurd ((RR.gt_iff _ _).mp
    (k ((RR.lt_iff _ _).mpr (RR.populationLimit_val ▸ hlim)))) (not_lt.mpr hd)

/-- squaring the rounded square root of an approximation `vh` of `v`: `k` units before, `k + 5`
    after. Three roundings lie between `vh` and the rounded square, a relative error of `3.03u`;
    `vh ≤ (1 + k·u)·Y`, and `3.03·(1 + k·u) ≤ 5`. -/
theorem sq_chain (hfl : ∀ x, |fl x - x| ≤ u * |x|) (hu : 0 ≤ u) (hu' : u ≤ 1 / 2048)
    {vh v Y k : ℝ} (hk : k ≤ 1000) (hvh : 0 ≤ vh) (hv : 0 ≤ v) (hvY : v ≤ Y)
    (h : |vh - v| ≤ k * u * Y) :
    |fl (fl (Real.sqrt vh) * fl (Real.sqrt vh)) - v| ≤ (k + 5) * u * Y := by
  have hv1 := Mult.of_fl hfl hu (hu'.trans_lt (by norm_num))
  have hsq : Mult (3 * -Real.log (1 - u)) (fl (fl (Real.sqrt vh) * fl (Real.sqrt vh))) vh := by
    have := Mult.fl hv1 ((hv1 (Real.sqrt vh)).mul (hv1 (Real.sqrt vh)))
    rw [Real.mul_self_sqrt hvh] at this
    exact this.mono (le_of_eq (by ring))
  have h1 := hsq.abs_sub_le_unit (by norm_num) (by norm_num) hu (hu'.trans (by norm_num))
  rw [abs_of_nonneg hvh] at h1
  have huY : 0 ≤ u * Y := mul_nonneg hu (le_trans hv hvY)
  have h2 := mul_le_mul_of_nonneg_left
    (by linear_combination (abs_le.mp h).2 + hvY : vh ≤ Y + k * u * Y)
    (mul_nonneg (by norm_num) hu : 0 ≤ 1.01 * 3 * u)
  have h3 := mul_le_mul_of_nonneg_right
    (mul_le_mul hk hu' hu (by norm_num : (0 : ℝ) ≤ 1000)) huY
  linear_combination trans_close h1 h + h2 + 3.03 * h3 + (5 - 3.03 - 3.03 * 1000 / 2048) * huY

/-- the state `Unpaired::ci` builds from two real samples at `RR fl` -/
noncomputable def ofLists (fl : ℝ → ℝ) (as bs : List ℝ) : Unpaired (RR fl) :=
  Unpaired.fromLists (as.map inj) (bs.map inj)

theorem ofLists_a (as bs : List ℝ) : (ofLists fl as bs).a = Arith.fromList (as.map inj) := rfl

theorem ofLists_b (as bs : List ℝ) : (ofLists fl as bs).b = Arith.fromList (bs.map inj) := rfl

theorem ofLists_a_count (as bs : List ℝ) : (ofLists fl as bs).a.count = as.length := by
  rw [ofLists_a, fromList_count']

theorem ofLists_b_count (as bs : List ℝ) : (ofLists fl as bs).b.count = bs.length := by
  rw [ofLists_b, fromList_count']

theorem ciPrep_ofLists (fl : ℝ → ℝ) (as bs : List ℝ) (hna : 2 ≤ as.length) (hnb : 2 ≤ bs.length) :
    (Unpaired.ciPrep (ofLists fl as bs) : Outcome (Err (RR fl)) (Arith.Prep (RR fl))) =
      .ok ⟨⟨diffFl (ofLists fl as bs)⟩, ⟨seFl (ofLists fl as bs)⟩, ⟨dofClFl (ofLists fl as bs)⟩⟩ :=
  ciPrep_fl _ (by rw [ofLists_a_count]; exact hna) (by rw [ofLists_b_count]; exact hnb)

theorem split_hyps (hu : 0 ≤ u) (as bs : List ℝ) (hna : 2 ≤ as.length)
    (hs : ((as.length : ℝ) + bs.length) * u ≤ 1 / 1024)
    (hnat : ∀ m : ℕ, m ≤ as.length + bs.length → fl m = m) :
    u ≤ 1 / 2048 ∧ (as.length : ℝ) * u ≤ 1 / 1024 ∧ (bs.length : ℝ) * u ≤ 1 / 1024 ∧
    (∀ m : ℕ, m ≤ as.length → fl m = m) ∧ (∀ m : ℕ, m ≤ bs.length → fl m = m) := by
  have h1 : 0 ≤ (as.length : ℝ) * u := mul_nonneg (Nat.cast_nonneg _) hu
  have h2 : 0 ≤ (bs.length : ℝ) * u := mul_nonneg (Nat.cast_nonneg _) hu
  rw [add_mul] at hs
  have hsa : (as.length : ℝ) * u ≤ 1 / 1024 := (le_add_of_nonneg_right h2).trans hs
  exact ⟨u_small hu hna hsa, hsa, (le_add_of_nonneg_left h1).trans hs,
    fun m hm => hnat m (by omega), fun m hm => hnat m (by omega)⟩

theorem welchA_le_sqTerm (xs : List ℝ) (hn : 2 ≤ xs.length) : welchA xs ≤ sqTerm xs :=
  div_le_div_of_nonneg_right (svar_le xs hn) (Nat.cast_nonneg _)

/-- `51`: `44` units on the variance, `49` after `sq_chain`, the division by the exact `n`, one
    rounding -/
theorem s2n_bound (hfl : ∀ x, |fl x - x| ≤ u * |x|) (hu : 0 ≤ u) (xs : List ℝ)
    (hn : 2 ≤ xs.length) (hs : (xs.length : ℝ) * u ≤ 1 / 1024)
    (hnat : ∀ m : ℕ, m ≤ xs.length → fl m = m) :
    |s2nFl (Arith.fromList (xs.map inj) : Arith (RR fl)) - welchA xs| ≤ 51 * u * sqTerm xs ∧
    0 ≤ s2nFl (Arith.fromList (xs.map inj) : Arith (RR fl)) := by
  have hu' := u_small hu hn hs
  have hc : fl (Arith.fromList (xs.map inj) : Arith (RR fl)).count =
      (Arith.fromList (xs.map inj) : Arith (RR fl)).count := by
    rw [fromList_count']; exact hnat _ le_rfl
  refine ⟨?_, s2nFl_nonneg hfl (hu'.trans (by norm_num)) _ hc⟩
  have hv0 := svar_nonneg xs (by omega)
  rw [s2nFl_eq, stdDev_val, hc, fromList_count']
  exact fl_step_div hfl hu hu' (natCast_pos hn) (by norm_num) (by norm_num)
    ((abs_of_nonneg hv0).le.trans (svar_le xs hn))
    (sq_chain hfl hu hu' (by norm_num) (variance_nonneg _) hv0 (svar_le xs hn)
      (variance_bound hfl hu xs hn hs hnat))

theorem s2n_rel (hfl : ∀ x, |fl x - x| ≤ u * |x|) (hu : 0 ≤ u) (xs : List ℝ)
    (hn : 2 ≤ xs.length) (hs : (xs.length : ℝ) * u ≤ 1 / 1024)
    (hnat : ∀ m : ℕ, m ≤ xs.length → fl m = m) {κ : ℝ}
    (hκ : sumSq xs / ((xs.length : ℝ) - 1) ≤ κ * svar xs) :
    |s2nFl (Arith.fromList (xs.map inj) : Arith (RR fl)) - welchA xs| ≤
      51 * u * κ * welchA xs := by
  have h2 : sqTerm xs ≤ κ * welchA xs := by
    rw [welchA, ← mul_div_assoc]
    exact div_le_div_of_nonneg_right hκ (Nat.cast_nonneg _)
  exact ((s2n_bound hfl hu xs hn hs hnat).1.trans
    (mul_le_mul_of_nonneg_left h2 (mul_nonneg (by norm_num) hu))).trans_eq (mul_assoc _ _ _).symm

section lists

variable (hfl : ∀ x, |fl x - x| ≤ u * |x|) (hu : 0 ≤ u) (as bs : List ℝ)
  (hna : 2 ≤ as.length) (hnb : 2 ≤ bs.length)
  (hs : ((as.length : ℝ) + bs.length) * u ≤ 1 / 1024)
  (hnat : ∀ m : ℕ, m ≤ as.length + bs.length → fl m = m)

include hfl hu hna hnb hs hnat

/-- the computed mean difference: `13u·(Σ|a|/na + Σ|b|/nb)` from the two means, plus the final
    subtraction; in closed form `15u·(Σ|a|/na + Σ|b|/nb)` -/
theorem diff_bound :
    |diffFl (ofLists fl as bs) - (smean as - smean bs)| ≤
      13 * u * (meanAbs as + meanAbs bs)
        + u * (|smean as - smean bs| + 13 * u * (meanAbs as + meanAbs bs)) ∧
    |diffFl (ofLists fl as bs) - (smean as - smean bs)| ≤ 15 * u * (meanAbs as + meanAbs bs) := by
  obtain ⟨hu', hsa, hsb, hnata, hnatb⟩ := split_hyps hu as bs hna hs hnat
  have hab : |((ofLists fl as bs).a.mean.val - (ofLists fl as bs).b.mean.val)
      - (smean as - smean bs)| ≤ 13 * u * (meanAbs as + meanAbs bs) := by
    rw [mul_add]
    exact sub_close (mean_bound hfl hu as hna hsa hnata) (mean_bound hfl hu bs hnb hsb hnatb)
  constructor
  · exact fl_close hfl hu hab le_rfl
  · exact fl_step hfl hu hu' (by norm_num) (by norm_num) (abs_smean_sub_le as bs) hab

theorem sumS2n_bound :
    |sumS2nFl (ofLists fl as bs) - (welchA as + welchA bs)| ≤ 53 * u * (sqTerm as + sqTerm bs) ∧
    0 ≤ sumS2nFl (ofLists fl as bs) := by
  obtain ⟨hu', hsa, hsb, hnata, hnatb⟩ := split_hyps hu as bs hna hs hnat
  obtain ⟨a1, a2⟩ := s2n_bound hfl hu as hna hsa hnata
  obtain ⟨b1, b2⟩ := s2n_bound hfl hu bs hnb hsb hnatb
  refine ⟨?_, fl_nonneg hfl (hu'.trans (by norm_num)) (add_nonneg a2 b2)⟩
  -- `51` units each of its own magnitude, one rounded addition
  refine fl_step hfl hu hu' (k := 51) (by norm_num) (by norm_num) ?_
    (by rw [mul_add]; exact add_close a1 b1)
  rw [abs_of_nonneg (add_nonneg (welchA_nonneg as (by omega)) (welchA_nonneg bs (by omega)))]
  exact add_le_add (welchA_le_sqTerm as hna) (welchA_le_sqTerm bs hnb)

theorem se_bound :
    |seFl (ofLists fl as bs) - Real.sqrt (welchA as + welchA bs)| ≤
      8 * Real.sqrt (u * (sqTerm as + sqTerm bs)) ∧
    |seFl (ofLists fl as bs) - Real.sqrt (welchA as + welchA bs)| *
      Real.sqrt (welchA as + welchA bs) ≤ 55 * u * (sqTerm as + sqTerm bs) := by
  obtain ⟨hu', -⟩ := split_hyps hu as bs hna hs hnat
  obtain ⟨h1, h2⟩ := sumS2n_bound hfl hu as bs hna hnb hs hnat
  -- `53` units on the sum: `(1 + 1/2048)·√53 + 1/32 ≤ 8` and `(1 + 1/2048)·53 + 1 ≤ 55`
  have h53 : Real.sqrt 53 ≤ 7.29 := by
    rw [Real.sqrt_le_iff]; constructor <;> norm_num
  exact sd_chain_closed hfl hu hu' h2
    (add_nonneg (welchA_nonneg as (by omega)) (welchA_nonneg bs (by omega)))
    (add_le_add (welchA_le_sqTerm as hna) (welchA_le_sqTerm bs hnb)) (by norm_num) h1
    (by linear_combination (1 + 1 / 2048) * h53) (by norm_num)

theorem unpaired_bounds_bound (c : ℝ) (hc : 0 ≤ c) {Δ : ℝ}
    (hΔ : |seFl (ofLists fl as bs) - Real.sqrt (welchA as + welchA bs)| ≤ Δ) :
    let U := ofLists fl as bs
    let se := Real.sqrt (welchA as + welchA bs)
    let B := 17 * u * (meanAbs as + meanAbs bs) + (1 + 3 * u) * (c * Δ) + 3 * u * (c * se)
    |fl (diffFl U - fl (c * seFl U)) - ((smean as - smean bs) - c * se)| ≤ B ∧
    |fl (diffFl U + fl (c * seFl U)) - ((smean as - smean bs) + c * se)| ≤ B := by
  intro U se B
  obtain ⟨hu', -⟩ := split_hyps hu as bs hna hs hnat
  have hP := mul_left_close c hΔ
  rw [abs_of_nonneg hc] at hP
  -- two roundings lie between `sê` and the result, `(1 + u)² ≤ 1 + 3u`; the mean difference
  -- goes from `15` to `17` units with the last rounding
  have k2 : (1 + u) * (1 + u) ≤ 1 + 3 * u := by
    linear_combination mul_le_mul_of_nonneg_right hu' hu + (1 - 1 / 2048) * hu
  exact pm_step hfl hu (abs_smean_sub_le as bs) (mul_nonneg hc (Real.sqrt_nonneg _))
    (diff_bound hfl hu as bs hna hnb hs hnat).2 hu (hfl (c * seFl U)) hP
    (coef_step hu hu' (by norm_num) le_rfl (by norm_num)) k2 k2

end lists

theorem fl_min_sub_one {n m : ℕ} (hn : 1 ≤ n) (hm : 1 ≤ m)
    (hnat : ∀ k : ℕ, k ≤ n + m → fl k = k) :
    fl (min (n : ℝ) m - 1) = min (n : ℝ) m - 1 := by
  have e : min (n : ℝ) m - 1 = ((min n m - 1 : ℕ) : ℝ) := by
    rw [Nat.cast_sub (Nat.le_min.mpr ⟨hn, hm⟩), Nat.cast_min]; simp
  rw [e]
  exact hnat _ (by have := Nat.min_le_left n m; omega)

theorem dofClFl_lists (as bs : List ℝ) (hna : 2 ≤ as.length) (hnb : 2 ≤ bs.length)
    (hnat : ∀ m : ℕ, m ≤ as.length + bs.length → fl m = m) :
    dofClFl (ofLists fl as bs) =
      max (dofFl (ofLists fl as bs)) (min (as.length : ℝ) bs.length - 1) ∧
    min (as.length : ℝ) bs.length - 1 ≤ dofClFl (ofLists fl as bs) ∧
    1 ≤ dofClFl (ofLists fl as bs) := by
  have h := dofClFl_exact (ofLists fl as bs)
  rw [ofLists_a_count, ofLists_b_count] at h
  exact h hna hnb (hnat _ (by omega)) (hnat _ (by omega))
    (fl_min_sub_one (by omega) (by omega) hnat)

/-- `Unpaired::ci` on two real samples at `RR fl` with a constant critical value: the degrees of
    freedom handed on are `≥ 1`, so `t_value` does not panic -/
theorem ci_ofLists (as bs : List ℝ) (hna : 2 ≤ as.length) (hnb : 2 ≤ bs.length)
    (hnat : ∀ m : ℕ, m ≤ as.length + bs.length → fl m = m) (c : ℝ) (conf : Confidence (RR fl))
    (hp : probOk conf.quantile = true) :
    Unpaired.ci (constCrit c) conf (as.map (inj : ℝ → RR fl)) (bs.map inj) =
      intervalOfKind conf
        (⟨fl (diffFl (ofLists fl as bs) - fl (c * seFl (ofLists fl as bs)))⟩ : RR fl)
        ⟨fl (diffFl (ofLists fl as bs) + fl (c * seFl (ofLists fl as bs)))⟩ :=
  ciMean_fl (constCrit c) (ofLists fl as bs) conf (by rw [ofLists_a_count]; exact hna)
    (by rw [ofLists_b_count]; exact hnb)
    (lt_of_lt_of_le one_pos (dofClFl_lists as bs hna hnb hnat).2.2) hp

/-- two real samples: the error of the degrees of freedom handed on against the exact clamped
    value is at most that of the unclamped computed value against the exact `ν` (`max` is
    1-Lipschitz and the computed lower bound is the exact one) -/
theorem dofClFl_error_lists (as bs : List ℝ) (hna : 2 ≤ as.length) (hnb : 2 ≤ bs.length)
    (hnat : ∀ m : ℕ, m ≤ as.length + bs.length → fl m = m) :
    |dofClFl (ofLists fl as bs) - clampedDof (welchA as) (welchA bs) as.length bs.length| ≤
      |dofFl (ofLists fl as bs) - welchNu as bs| := by
  have h := dofClFl_sub_clampedDof_le (ofLists fl as bs) (welchA as) (welchA bs)
  rwa [ofLists_a_count, ofLists_b_count, hnat _ (by omega), hnat _ (by omega),
    fl_min_sub_one (by omega) (by omega) hnat, sub_self, abs_zero,
    max_eq_left (abs_nonneg _)] at h

/-- when not both exact variance terms vanish the exact clamp is inactive (`clampedDof_lists`)
    and the error is against `ν` itself -/
theorem dofClFl_error_lists_nu (as bs : List ℝ) (hna : 2 ≤ as.length) (hnb : 2 ≤ bs.length)
    (hnat : ∀ m : ℕ, m ≤ as.length + bs.length → fl m = m)
    (hAB : 0 < welchA as + welchA bs) :
    |dofClFl (ofLists fl as bs) - welchNu as bs| ≤ |dofFl (ofLists fl as bs) - welchNu as bs| :=
  clampedDof_lists as bs hna hnb hAB ▸ dofClFl_error_lists as bs hna hnb hnat

/-- `Rounding.Mult θ xh x` for `x > 0`, written as two inequalities (`near_iff_mult`) -/
def Near (θ xh x : ℝ) : Prop := x * Real.exp (-θ) ≤ xh ∧ xh ≤ x * Real.exp θ

namespace Near

variable {θ θ' xh x : ℝ}

theorem mono (hx : 0 ≤ x) (hθ : θ ≤ θ') (h : Near θ xh x) : Near θ' xh x := by
  have h1 : Real.exp (-θ') ≤ Real.exp (-θ) := Real.exp_le_exp.mpr (neg_le_neg hθ)
  have h2 : Real.exp θ ≤ Real.exp θ' := Real.exp_le_exp.mpr hθ
  exact ⟨le_trans (mul_le_mul_of_nonneg_left h1 hx) h.1,
    le_trans h.2 (mul_le_mul_of_nonneg_left h2 hx)⟩

end Near

theorem near_iff_mult {θ xh x : ℝ} (hx : 0 < x) : Near θ xh x ↔ Mult θ xh x :=
  ⟨fun h => ⟨xh / x, (le_div_iff₀' hx).mpr h.1, (div_le_iff₀' hx).mpr h.2,
      (mul_div_cancel₀ xh hx.ne').symm⟩,
    fun ⟨_, r1, r2, e⟩ => e ▸ ⟨mul_le_mul_of_nonneg_left r1 hx.le, mul_le_mul_of_nonneg_left r2 hx.le⟩⟩

/-- a relative error `ε ≤ 1/64` of a positive number is the exponent `(33/32)·ε`
    (`-log (1 - ε) ≤ ε/(1 - ε)`) -/
theorem mult_of_rel {ε xh x : ℝ} (hx : 0 < x) (hε0 : 0 ≤ ε) (hε : ε ≤ 1 / 64)
    (h : |xh - x| ≤ ε * x) : Mult (33 / 32 * ε) xh x := by
  have h1 : ε < 1 := hε.trans_lt (by norm_num)
  refine (Mult.of_abs_sub_le hε0 h1 (by rwa [abs_of_pos hx])).mono
    ((neg_log_one_sub_le h1).trans ?_)
  rw [div_le_iff₀ (sub_pos.mpr h1)]
  linear_combination mul_nonneg hε0 (by linear_combination 33 / 32 * hε : 0 ≤ 1 / 32 - 33 / 32 * ε)

/-- the quotient inside `effectiveDof`, computed with rounding, against the exact quotient of
    the reference values. `4e`: numerator and denominator are both of degree two in the inputs.
    `7v`: three for the numerator (the rounded sum enters twice, then the product), three for the
    denominator (square and division on each side, side by side, then the sum), one for the quotient -/
theorem dof_chain {v e Ah Bh A B p q : ℝ} (hfl : ∀ x, Mult v (fl x) x) (hA : 0 ≤ A) (hB : 0 ≤ B)
    (hp : 0 ≤ p) (hq : 0 ≤ q) (ha : Mult e Ah A) (hb : Mult e Bh B) :
    Mult (4 * e + 7 * v)
      (fl (fl (fl (Ah + Bh) * fl (Ah + Bh)) /
        fl (fl (fl (Ah * Ah) / p) + fl (fl (Bh * Bh) / q))))
      ((A + B) ^ 2 / (A ^ 2 / p + B ^ 2 / q)) := by
  have hS := Mult.fl hfl (ha.add hb hA hB)
  have hAA := Mult.fl hfl ((Mult.fl hfl (ha.mul ha)).div (Mult.refl p))
  have hBB := Mult.fl hfl ((Mult.fl hfl (hb.mul hb)).div (Mult.refl q))
  have hD := Mult.fl hfl (hAA.add hBB (div_nonneg (mul_self_nonneg A) hp)
    (div_nonneg (mul_self_nonneg B) hq))
  have hQ := Mult.fl hfl ((Mult.fl hfl (hS.mul hS)).div hD)
  rw [pow_two, pow_two, pow_two]
  exact hQ.mono (le_of_eq (by ring))

/-- the quotient is homogeneous of degree `0` with non-negative terms: the exponent `e` of both
    inputs is the exponent `4e` of the quotient (`dof_chain` without rounding) -/
theorem quot_near {e Ah Bh A B p q : ℝ} (hA : 0 ≤ A) (hB : 0 ≤ B) (hp : 0 ≤ p) (hq : 0 ≤ q)
    (ha : Mult e Ah A) (hb : Mult e Bh B) :
    Mult (4 * e) ((Ah + Bh) ^ 2 / (Ah ^ 2 / p + Bh ^ 2 / q))
      ((A + B) ^ 2 / (A ^ 2 / p + B ^ 2 / q)) := by
  simpa only [id, mul_zero, add_zero, ← pow_two] using
    dof_chain (fl := id) (v := 0) Mult.refl hA hB hp hq ha hb

/-- the two final subtractions, `Qh` within `D` of `Q ≥ 3`: two roundings of quantities below `Q` -/
theorem dof_tail (hfl : ∀ x, |fl x - x| ≤ u * |x|) (hu : 0 ≤ u) (hu' : u ≤ 1 / 2048)
    {D Qh Q : ℝ} (hQ : 3 ≤ Q) (h : |Qh - Q| ≤ D) :
    |fl (fl (Qh - 1) - 1) - (Q - 2)| ≤ (1 + 3 * u) * D + 3 * u * Q := by
  have huD := mul_nonneg hu (le_trans (abs_nonneg _) h)
  have huQ := mul_nonneg hu (le_trans (by norm_num) hQ : 0 ≤ Q)
  have f1 := mul_le_mul_of_nonneg_right hu' huD
  have f2 := mul_le_mul_of_nonneg_right hu' huQ
  have h0 : |Qh - 1 - (Q - 1)| ≤ D := by rwa [sub_sub_sub_cancel_right]
  have c1 := fl_close hfl hu h0 (abs_of_nonneg (by linear_combination hQ)).le
  rw [← sub_sub_sub_cancel_right _ _ 1, show Q - 1 - 1 = Q - 2 by ring] at c1
  have c2 := fl_close hfl hu c1 (abs_of_nonneg (by linear_combination hQ)).le
  linear_combination c2 + f1 + f2 + (1 - 1 / 2048) * huD + (1 - 1 / 2048) * huQ + 3 * hu
    + mul_nonneg hu hu

/-- the exponent of inputs with relative error `ε ≤ 1/64` (`4·(33/32)·ε`) plus the roundings of
    `dof_chain` (`7·(-log (1 - u)) ≤ 14u`) is at most `τ = 4·(33/32)·ε + 14u ≤ 1/9`, a relative error
    of `τ/(1 − 1/9)`; with the two subtractions
    `(1 + 3u)·(9/8)·τ + 3u ≤ 5ε + 19u ≤ 1/8`, so the result is positive -/
theorem dof_finish (hfl : ∀ x, |fl x - x| ≤ u * |x|) (hu : 0 ≤ u) (hu' : u ≤ 1 / 2048)
    {ε Qh Q : ℝ} (hQ : 3 ≤ Q) (hε0 : 0 ≤ ε) (hε : ε ≤ 1 / 64)
    (h : Mult (4 * (33 / 32 * ε) + 7 * -Real.log (1 - u)) Qh Q) :
    |fl (fl (Qh - 1) - 1) - (Q - 2)| ≤ (5 * ε + 19 * u) * Q ∧ 0 < fl (fl (Qh - 1) - 1) := by
  obtain ⟨-, hv⟩ := unit_le hu (hu'.trans (by norm_num))
  generalize -Real.log (1 - u) = v at h hv
  have hQ0 : 0 ≤ Q := le_trans (by norm_num) hQ
  have hτ : 4 * (33 / 32 * ε) + 14 * u ≤ 1 / 9 := by linear_combination 33 / 8 * hε + 14 * hu'
  have h0 := (h.mono (by linear_combination 7 * hv + 6.993 * hu :
    _ ≤ 4 * (33 / 32 * ε) + 14 * u)).abs_sub_le_of_le
      (by linear_combination 33 / 8 * hε0 + 14 * hu) hτ (by norm_num)
  rw [abs_of_nonneg hQ0, show (1 : ℝ) - 1 / 9 = 8 / 9 by norm_num] at h0
  have ht := dof_tail hfl hu hu' hQ h0
  have hεQ := mul_nonneg hε0 hQ0
  have huQ := mul_nonneg hu hQ0
  have f1 := mul_le_mul_of_nonneg_right hu' hεQ
  have f2 := mul_le_mul_of_nonneg_right hu' huQ
  have hb : |fl (fl (Qh - 1) - 1) - (Q - 2)| ≤ (5 * ε + 19 * u) * Q := by
    linear_combination ht + (891 / 64) * f1 + (189 / 4) * f2
      + (5 - 297 / 64 - 891 / 131072) * hεQ + (19 - 75 / 4 - 189 / 8192) * huQ
  have h8 := mul_le_mul_of_nonneg_right
    (by linear_combination 5 * hε + 19 * hu' : 5 * ε + 19 * u ≤ 1 / 8) hQ0
  exact ⟨hb, by linear_combination (abs_le.mp hb).1 + h8 + (7 / 8) * hQ⟩

/-- the denominator `A²/p + B²/q` when `A`, `B` move by at most `η·(A + B)` together:
    relative error `((p + q)/min(p, q))·(2η + η²)`. Unbalanced `p`, `q` amplify, and this is real:
    a perturbation `η·B` of a vanishing `A` changes the denominator by the factor `1 + η²q/p`. -/
theorem den_perturb {A B Ah Bh η p q : ℝ} (hA : 0 ≤ A) (hB : 0 ≤ B) (hp : 0 < p) (hq : 0 < q)
    (he : |Ah - A| + |Bh - B| ≤ η * (A + B)) (hη : 0 ≤ η) :
    |(Ah ^ 2 / p + Bh ^ 2 / q) - (A ^ 2 / p + B ^ 2 / q)| ≤
      (p + q) / min p q * (2 * η + η ^ 2) * (A ^ 2 / p + B ^ 2 / q) := by
  have hm := lt_min hp hq
  have ha0 := abs_nonneg (Ah - A)
  have hb0 := abs_nonneg (Bh - B)
  -- one term: `|Xh²/r − X²/r| ≤ e·(2X + e)/min(p, q)` with `e = |Xh − X|`
  have term : ∀ {X Xh r : ℝ}, 0 ≤ X → 0 < r → min p q ≤ r →
      |Xh ^ 2 / r - X ^ 2 / r| ≤ |Xh - X| * (2 * X + |Xh - X|) / min p q := by
    intro X Xh r hX hr hmr
    have h := abs_sq_sub_sq_le (le_refl |Xh - X|)
    rw [abs_of_nonneg hX] at h
    exact (div_right_close hr h).trans
      (div_le_div_of_nonneg_left (le_trans (abs_nonneg _) h) hm hmr)
  -- the two terms together: at most `(2η + η²)·(A + B)²`, then Cauchy–Schwarz
  have c : 0 ≤ |Ah - A| * (2 * B + |Bh - B|) + |Bh - B| * (2 * A + |Ah - A|) :=
    add_nonneg (mul_nonneg ha0 (add_nonneg (mul_nonneg zero_le_two hB) hb0))
      (mul_nonneg hb0 (add_nonneg (mul_nonneg zero_le_two hA) ha0))
  have d := mul_le_mul he
    (by linear_combination he : 2 * (A + B) + (|Ah - A| + |Bh - B|) ≤ 2 * (A + B) + η * (A + B))
    (by linear_combination 2 * hA + 2 * hB + ha0 + hb0) (le_trans (add_nonneg ha0 hb0) he)
  have cs := mul_le_mul_of_nonneg_right (welch_den_ge A B hp hq)
    (add_nonneg (mul_nonneg zero_le_two hη) (sq_nonneg η))
  refine le_trans (add_close (term hA hp (min_le_left p q)) (term hB hq (min_le_right p q))) ?_
  rw [← add_div, div_mul_eq_mul_div, div_mul_eq_mul_div]
  exact div_le_div_of_nonneg_right (by linear_combination c + d + cs) hm.le

/-- the exact quotient on perturbed inputs against the exact quotient: the numerator moves by
    `(1 ± η)²`, the denominator by `1 ± ρ`, `ρ = ((p + q)/min(p, q))·(2η + η²) ≤ 1/64`; exponent
    `(33/32)·(2η + ρ)`. Then also `2η ≤ ρ`. -/
theorem quot_perturb {A B Ah Bh η p q : ℝ} (hA : 0 ≤ A) (hB : 0 ≤ B) (hAB : 0 < A + B)
    (hp : 0 < p) (hq : 0 < q) (he : |Ah - A| + |Bh - B| ≤ η * (A + B)) (hη : 0 ≤ η)
    (hρ : (p + q) / min p q * (2 * η + η ^ 2) ≤ 1 / 64) :
    Mult (33 / 32 * (2 * η + (p + q) / min p q * (2 * η + η ^ 2)))
      ((Ah + Bh) ^ 2 / (Ah ^ 2 / p + Bh ^ 2 / q)) ((A + B) ^ 2 / (A ^ 2 / p + B ^ 2 / q)) ∧
    2 * η ≤ (p + q) / min p q * (2 * η + η ^ 2) := by
  have hr1 : 1 ≤ (p + q) / min p q := by
    rw [le_div_iff₀ (lt_min hp hq), one_mul]
    exact le_trans (min_le_left p q) (le_add_of_nonneg_right hq.le)
  have h2η : 2 * η ≤ (p + q) / min p q * (2 * η + η ^ 2) := by
    have := mul_le_mul_of_nonneg_right hr1 (add_nonneg (mul_nonneg zero_le_two hη) (sq_nonneg η))
    linear_combination this + sq_nonneg η
  have hTrel := (add_close (le_refl |Ah - A|) (le_refl |Bh - B|)).trans he
  have hT := mult_of_rel hAB hη (by linear_combination (1 / 2) * h2η + (1 / 2) * hρ) hTrel
  have hD := mult_of_rel (welch_den_pos hAB.ne' hp hq)
    (le_trans (mul_nonneg zero_le_two hη) h2η) hρ (den_perturb hA hB hp hq he hη)
  have hQ := (hT.mul hT).div hD
  rw [← pow_two, ← pow_two, ← mul_add, ← mul_add, ← two_mul] at hQ
  exact ⟨hQ, h2η⟩

/-- both counts are `≥ 2` and `fl` is exact on them and on their successors: the four natural
    numbers `effectiveDof` uses -/
structure ExactCounts (U : Unpaired (RR fl)) : Prop where
  na : 2 ≤ U.a.count
  nb : 2 ≤ U.b.count
  a : fl U.a.count = U.a.count
  b : fl U.b.count = U.b.count
  a1 : fl ((U.a.count : ℝ) + 1) = (U.a.count : ℝ) + 1
  b1 : fl ((U.b.count : ℝ) + 1) = (U.b.count : ℝ) + 1

namespace ExactCounts

variable {U : Unpaired (RR fl)}

theorem two_le_a (hc : ExactCounts U) : (2 : ℝ) ≤ U.a.count := by exact_mod_cast hc.na

theorem two_le_b (hc : ExactCounts U) : (2 : ℝ) ≤ U.b.count := by exact_mod_cast hc.nb

theorem s2nFl_nonneg (hfl : ∀ x, |fl x - x| ≤ u * |x|) (hu1 : u ≤ 1) (hc : ExactCounts U) :
    0 ≤ s2nFl U.a ∧ 0 ≤ s2nFl U.b :=
  ⟨UnpairedRound.s2nFl_nonneg hfl hu1 U.a hc.a, UnpairedRound.s2nFl_nonneg hfl hu1 U.b hc.b⟩

end ExactCounts

theorem dofFl_eq {U : Unpaired (RR fl)} (hc : ExactCounts U) :
    dofFl U = fl (fl (fl (fl (fl (s2nFl U.a + s2nFl U.b) * fl (s2nFl U.a + s2nFl U.b)) /
        fl (fl (fl (s2nFl U.a * s2nFl U.a) / ((U.a.count : ℝ) + 1))
          + fl (fl (s2nFl U.b * s2nFl U.b) / ((U.b.count : ℝ) + 1)))) - 1) - 1) := by
  unfold dofFl
  rw [effectiveDof_fl_val]
  simp only [RR.ofNat_val, hc.a, hc.b, hc.a1, hc.b1]

/-- the computed degrees of freedom of any state against `ν` of any reference values `A`, `B`
    for which the exact quotient on the computed terms is close to the exact quotient `ν + 2 ≥ 3`
    on `A`, `B`: the roundings of the quotient (`dof_chain`), then the two subtractions
    (`dof_finish`) -/
theorem dofFl_error (hfl : ∀ x, |fl x - x| ≤ u * |x|) (hu : 0 ≤ u) (hu' : u ≤ 1 / 2048)
    {U : Unpaired (RR fl)} (hc : ExactCounts U)
    {ε A B : ℝ} (hA : 0 ≤ A) (hB : 0 ≤ B) (hAB : 0 < A + B) (hε0 : 0 ≤ ε) (hε : ε ≤ 1 / 64)
    (h : Mult (4 * (33 / 32 * ε))
      ((s2nFl U.a + s2nFl U.b) ^ 2 /
        (s2nFl U.a ^ 2 / ((U.a.count : ℝ) + 1) + s2nFl U.b ^ 2 / ((U.b.count : ℝ) + 1)))
      ((A + B) ^ 2 / (A ^ 2 / ((U.a.count : ℝ) + 1) + B ^ 2 / ((U.b.count : ℝ) + 1)))) :
    |dofFl U - welchDof A B U.a.count U.b.count| ≤
      (5 * ε + 19 * u) * (welchDof A B U.a.count U.b.count + 2) ∧ 0 < dofFl U := by
  obtain ⟨hAh, hBh⟩ := hc.s2nFl_nonneg hfl (hu'.trans (by norm_num))
  have hch := dof_chain (Mult.of_fl hfl hu (hu'.trans_lt (by norm_num))) hAh hBh
    (Nat.cast_add_one_pos U.a.count).le (Nat.cast_add_one_pos U.b.count).le
    (Mult.refl _) (Mult.refl _)
  have hge := welchDof_ge _ _ _ _ hc.two_le_a hc.two_le_b hA hB hAB
  have hm := le_min hc.two_le_a hc.two_le_b
  rw [dofFl_eq hc, welchDof, sub_add_cancel]
  rw [welchDof] at hge
  exact dof_finish hfl hu hu' (by linear_combination hge + hm) hε0 hε
    ((hch.trans h).mono (le_of_eq (by ring)))

theorem dofFl_pos (hfl : ∀ x, |fl x - x| ≤ u * |x|) (hu : 0 ≤ u) (hu' : u ≤ 1 / 2048)
    {U : Unpaired (RR fl)} (hc : ExactCounts U)
    (hpos : 0 < s2nFl U.a + s2nFl U.b) : 0 < dofFl U := by
  obtain ⟨hA, hB⟩ := hc.s2nFl_nonneg hfl (hu'.trans (by norm_num))
  exact (dofFl_error hfl hu hu' hc hA hB hpos (ε := 0) le_rfl (by norm_num)
    (by rw [mul_zero, mul_zero]; exact Mult.refl _)).2

/-- relative errors `ε ≤ 1/64` of the two computed variance terms against any positive
    reference values: the quotient is homogeneous of degree `0` (`quot_near`) -/
theorem dofFl_error_rel (hfl : ∀ x, |fl x - x| ≤ u * |x|) (hu : 0 ≤ u) (hu' : u ≤ 1 / 2048)
    {U : Unpaired (RR fl)} (hc : ExactCounts U)
    {ε A B : ℝ} (hε0 : 0 ≤ ε) (hε : ε ≤ 1 / 64) (hA : 0 < A) (hB : 0 < B)
    (hεa : |s2nFl U.a - A| ≤ ε * A) (hεb : |s2nFl U.b - B| ≤ ε * B) :
    |dofFl U - welchDof A B U.a.count U.b.count| ≤
      (5 * ε + 19 * u) * (welchDof A B U.a.count U.b.count + 2) ∧ 0 < dofFl U := by
  exact dofFl_error hfl hu hu' hc hA.le hB.le (add_pos hA hB) hε0 hε
    (quot_near hA.le hB.le (Nat.cast_add_one_pos U.a.count).le (Nat.cast_add_one_pos U.b.count).le
      (mult_of_rel hA hε0 hε hεa) (mult_of_rel hB hε0 hε hεb))

/-- absolute errors of the two computed variance terms, together at most `η·(A + B)`, against
    any non-negative reference values not both zero: with `r = (na + nb + 2)/(min(na, nb) + 1)`
    and `ρ = r·(2η + η²) ≤ 1/64` the hypothesis of `dofFl_error` is met with `ε = (2η + ρ)/4` -/
theorem dofFl_error_abs (hfl : ∀ x, |fl x - x| ≤ u * |x|) (hu : 0 ≤ u) (hu' : u ≤ 1 / 2048)
    {U : Unpaired (RR fl)} (hc : ExactCounts U)
    {η A B : ℝ} (hη0 : 0 ≤ η) (hA : 0 ≤ A) (hB : 0 ≤ B) (hAB : 0 < A + B)
    (he : |s2nFl U.a - A| + |s2nFl U.b - B| ≤ η * (A + B))
    (hρ : ((U.a.count : ℝ) + U.b.count + 2) / (min (U.a.count : ℝ) U.b.count + 1)
      * (2 * η + η ^ 2) ≤ 1 / 64) :
    |dofFl U - welchDof A B U.a.count U.b.count| ≤
      (5 / 4 * (2 * η + ((U.a.count : ℝ) + U.b.count + 2) / (min (U.a.count : ℝ) U.b.count + 1)
        * (2 * η + η ^ 2)) + 19 * u) * (welchDof A B U.a.count U.b.count + 2) ∧
    0 < dofFl U := by
  rw [show (U.a.count : ℝ) + U.b.count + 2 = ((U.a.count : ℝ) + 1) + ((U.b.count : ℝ) + 1) by ring,
    ← min_add_add_right] at hρ ⊢
  obtain ⟨hq, h2η⟩ := quot_perturb (Ah := s2nFl U.a) (Bh := s2nFl U.b) hA hB hAB
    (Nat.cast_add_one_pos _) (Nat.cast_add_one_pos _) he hη0 hρ
  generalize (((U.a.count : ℝ) + 1) + ((U.b.count : ℝ) + 1)) /
    min ((U.a.count : ℝ) + 1) ((U.b.count : ℝ) + 1) * (2 * η + η ^ 2) = ρ at hq hρ h2η ⊢
  have h := dofFl_error hfl hu hu' hc hA hB hAB (ε := (2 * η + ρ) / 4)
    (by linear_combination hη0 + (1 / 4) * h2η) (by linear_combination (1 / 4) * h2η + (1 / 2) * hρ)
    (hq.mono (le_of_eq (by ring)))
  rwa [show 5 * ((2 * η + ρ) / 4) = 5 / 4 * (2 * η + ρ) by ring] at h

theorem count_hyps (as bs : List ℝ) (hna : 2 ≤ as.length) (hnb : 2 ≤ bs.length)
    (hnat : ∀ m : ℕ, m ≤ as.length + bs.length → fl m = m) : ExactCounts (ofLists fl as bs) := by
  have e1 := hnat (as.length + 1) (by omega)
  have e2 := hnat (bs.length + 1) (by omega)
  push_cast at e1 e2
  refine ⟨?_, ?_, ?_, ?_, ?_, ?_⟩ <;> simp only [ofLists_a_count, ofLists_b_count]
  exacts [hna, hnb, hnat _ (by omega), hnat _ (by omega), e1, e2]

end StatsCI.UnpairedRound
