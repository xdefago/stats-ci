/-
  StatsCI.Lemmas.RR — the model's `Scalar` operations interpreted over ℝ with an abstract
  rounding function `fl` applied after every arithmetic operation (`fl = id`: exact arithmetic).

  This is where theorems about the *same* generic definitions that the compiled driver runs on
  `Float`/`Float32` live. Hypotheses about floating point are explicit hypotheses on `fl`
  (`|fl x - x| ≤ u |x|`, `fl (a x) = a fl x` as for `a = 2^e`, `fl (-x) = - fl x`), never axioms.
  Not modelled: overflow to ±∞, NaN, gradual underflow (`isFinite` is constantly `true`).

  After the projections: what the model's small functions are on this carrier (comparisons and
  `max`/`min` do not round), then exact arithmetic `Rex`.
-/
import StatsCI.Lemmas.EntryPoints
import Mathlib.Analysis.Real.Sqrt
import Mathlib.Analysis.SpecialFunctions.Log.Basic
import Mathlib.Algebra.Order.Round
import Mathlib.Algebra.Order.Floor.Semiring

namespace StatsCI

/-- reals with a rounding function applied after every operation -/
structure RR (fl : ℝ → ℝ) where
  val : ℝ

namespace RR
variable {fl : ℝ → ℝ}

/- The carrier has no infinite value: `posInf` and `negInf` are stand-ins, the number `0`. So
   `Harmonic.recipBound r` for `r ≤ 0` is `⟨0⟩` here, not an upper end: statements about it keep
   `posInf` symbolic (C05), and the harmonic results at `Rex` ask for positive reciprocal-space
   bounds (`PosBounds`, C10).
   Mathlib's `round` takes a tie upwards, `f64::round` away from zero: they differ on negative
   numbers only, which `toNat` sends to `0` as `as usize` does. -/
noncomputable instance instScalar : Scalar (RR fl) where
  le a b := decide (a.val ≤ b.val)
  lt a b := decide (a.val < b.val)
  eq a b := decide (a.val = b.val)
  add a b := ⟨fl (a.val + b.val)⟩
  sub a b := ⟨fl (a.val - b.val)⟩
  mul a b := ⟨fl (a.val * b.val)⟩
  div a b := ⟨fl (a.val / b.val)⟩
  neg a := ⟨-a.val⟩
  zero := ⟨0⟩
  one := ⟨1⟩
  sqrt a := ⟨fl (Real.sqrt a.val)⟩
  ln a := ⟨fl (Real.log a.val)⟩
  exp a := ⟨fl (Real.exp a.val)⟩
  ofNat n := ⟨fl n⟩
  isFinite _ := true
  floorToNat x := ⌊x.val⌋₊
  roundToNat x := (round x.val).toNat
  posInf := ⟨0⟩
  negInf := ⟨0⟩

instance : Widen (RR fl) (RR fl) := ⟨id, id⟩

@[ext] theorem ext' {a b : RR fl} (h : a.val = b.val) : a = b := by
  cases a; cases b; simp_all

@[simp] theorem le_iff (a b : RR fl) : (Cmp.le a b = true) ↔ a.val ≤ b.val := by
  simp [Cmp.le]
@[simp] theorem lt_iff (a b : RR fl) : (Cmp.lt a b = true) ↔ a.val < b.val := by
  simp [Cmp.lt]
@[simp] theorem eq_iff (a b : RR fl) : (Cmp.eq a b = true) ↔ a.val = b.val := by
  simp [Cmp.eq]
@[simp] theorem ge_iff (a b : RR fl) : (ge a b = true) ↔ b.val ≤ a.val := by simp [ge]
@[simp] theorem gt_iff (a b : RR fl) : (gt a b = true) ↔ b.val < a.val := by simp [gt]
/-- `Interval::new` accepts `lo`, `hi` exactly when `lo ≤ hi` -/
theorem gt_eq_false_iff (a b : RR fl) : (gt a b = false) ↔ a.val ≤ b.val := by
  rw [← Bool.not_eq_true, gt_iff, not_lt]
@[simp] theorem add_val (a b : RR fl) : (NumOps.add a b).val = fl (a.val + b.val) := rfl
@[simp] theorem sub_val (a b : RR fl) : (NumOps.sub a b).val = fl (a.val - b.val) := rfl
@[simp] theorem mul_val (a b : RR fl) : (NumOps.mul a b).val = fl (a.val * b.val) := rfl
@[simp] theorem div_val (a b : RR fl) : (NumOps.div a b).val = fl (a.val / b.val) := rfl
@[simp] theorem neg_val (a : RR fl) : (NumOps.neg a).val = -a.val := rfl
@[simp] theorem zero_val : (NumOps.zero : RR fl).val = 0 := rfl
@[simp] theorem one_val : (NumOps.one : RR fl).val = 1 := rfl
@[simp] theorem sqrt_val (a : RR fl) : (Scalar.sqrt a).val = fl (Real.sqrt a.val) := rfl
@[simp] theorem ln_val (a : RR fl) : (Scalar.ln a).val = fl (Real.log a.val) := rfl
@[simp] theorem exp_val (a : RR fl) : (Scalar.exp a).val = fl (Real.exp a.val) := rfl
@[simp] theorem ofNat_val (n : Nat) : (Scalar.ofNat n : RR fl).val = fl n := rfl
@[simp] theorem isFinite_eq (a : RR fl) : Scalar.isFinite a = true := rfl
@[simp] theorem floorToNat_eq (a : RR fl) : Scalar.floorToNat a = ⌊a.val⌋₊ := rfl
@[simp] theorem roundToNat_eq (a : RR fl) : Scalar.roundToNat a = (round a.val).toNat := rfl
@[simp] theorem up_eq (a : RR fl) : (Widen.up a : RR fl) = a := rfl
@[simp] theorem down_eq (a : RR fl) : (Widen.down a : RR fl) = a := rfl
@[simp] theorem mk_val (a : RR fl) : (⟨a.val⟩ : RR fl) = a := rfl

end RR

/-- exact real arithmetic -/
abbrev Rex := RR id

/-- embed a real number -/
def inj {fl : ℝ → ℝ} (x : ℝ) : RR fl := ⟨x⟩
@[simp] theorem inj_val {fl : ℝ → ℝ} (x : ℝ) : (inj x : RR fl).val = x := rfl

/-- a constant critical-value oracle (the external quantile routine returns `c`) -/
def constCrit {fl : ℝ → ℝ} (c : ℝ) : Crit (RR fl) := fun _ => ⟨c⟩

/-- `f64::max` / `f64::min` on the real carriers are the lattice operations (no rounding is involved) -/
theorem fmax_val {fl : ℝ → ℝ} (a b : RR fl) : (fmax a b).val = max a.val b.val := by
  unfold fmax
  by_cases h : a.val < b.val
  · simp [h, max_eq_right h.le]
  · have h' : b.val ≤ a.val := not_lt.mp h
    simp [h, h']

theorem fmin_val {fl : ℝ → ℝ} (a b : RR fl) : (fmin a b).val = min a.val b.val := by
  unfold fmin
  by_cases h : b.val < a.val
  · simp [h, min_eq_right h.le]
  · have h' : a.val ≤ b.val := not_lt.mp h
    simp [h, h']

theorem recipBound_fl_pos {fl : ℝ → ℝ} (r : RR fl) (h : 0 < r.val) :
    Harmonic.recipBound r = (⟨fl (1 / r.val)⟩ : RR fl) :=
  Harmonic.recipBound_of_pos r ((RR.gt_iff r NumOps.zero).mpr h)

/-- `recipBound` at `RR fl`: `+∞` (the carrier's stand-in `posInf`) on the other branch -/
theorem recipBound_fl_not_pos {fl : ℝ → ℝ} (r : RR fl) (h : r.val ≤ 0) :
    Harmonic.recipBound r = (Scalar.posInf : RR fl) :=
  Harmonic.recipBound_of_not_pos r ((RR.gt_eq_false_iff r NumOps.zero).mpr h)

theorem RR.populationLimit_val {fl : ℝ → ℝ} : (populationLimit : RR fl).val = fl 100000 :=
  congrArg fl Nat.cast_ofNat

theorem critReq_fl {fl : ℝ → ℝ} (conf : Confidence (RR fl)) (d : ℝ) :
    critReq conf (⟨d⟩ : RR fl) =
      if d < fl 100000 then .t ⟨d⟩ conf.quantile else .z conf.quantile := by
  unfold critReq
  simp only [RR.lt_iff, RR.populationLimit_val]

theorem Unpaired.clampDof_val {fl : ℝ → ℝ} (d na nb : RR fl) :
    (Unpaired.clampDof d na nb).val = max d.val (fl (min na.val nb.val - 1)) := by
  have hm : (NumOps.sub (fmin na nb) (NumOps.one : RR fl)).val = fl (min na.val nb.val - 1) :=
    congrArg (fun x => fl (x - 1)) (fmin_val na nb)
  rw [← hm, Unpaired.clampDof]
  split <;> rename_i h
  · exact (max_eq_right ((RR.lt_iff _ _).mp h).le).symm
  · exact (max_eq_left (not_lt.mp fun k => h ((RR.lt_iff _ _).mpr k))).symm

theorem Unpaired.clampDof_swap {fl : ℝ → ℝ} (d na nb : RR fl) :
    Unpaired.clampDof d nb na = Unpaired.clampDof d na nb := by
  apply RR.ext'
  rw [Unpaired.clampDof_val, Unpaired.clampDof_val, min_comm]

/-- the wide type is the data type: both evaluations of the effective degrees of freedom agree -/
theorem Unpaired.dofW_eq_dofF_RR {fl : ℝ → ℝ} (u : Unpaired (RR fl)) :
    (Unpaired.dofW u : RR fl) = Unpaired.dofF u := rfl

/-- what `t_value` is asked for is positive as soon as the bound `clampDof` puts under it is -/
theorem Unpaired.dofW_gt_zero_RR {fl : ℝ → ℝ} (u : Unpaired (RR fl))
    (hpos : 0 < fl (min (fl u.a.count) (fl u.b.count) - 1)) :
    gt (Unpaired.dofW u : RR fl) NumOps.zero = true := by
  rw [Unpaired.dofW_eq_dofF_RR, RR.gt_iff, Unpaired.dofF, Unpaired.clampDof_val]
  exact lt_of_lt_of_le hpos (le_max_right _ _)

/-- the validity test shared by the constructors of `Confidence` (and the test `ci_indices` makes of
    the quantile) is `0 < L < 1`: no arithmetic, so no rounding -/
theorem RR.validLevel_iff {fl : ℝ → ℝ} (l : RR fl) :
    Confidence.validLevel l = true ↔ 0 < l.val ∧ l.val < 1 := by
  rw [Confidence.validLevel, Bool.and_eq_true, RR.gt_iff, RR.lt_iff, RR.zero_val, RR.one_val]

/-- the level of the non-vacuity examples -/
theorem RR.validLevel_95 {fl : ℝ → ℝ} : Confidence.validLevel (⟨0.95⟩ : RR fl) = true :=
  (RR.validLevel_iff _).mpr ⟨by norm_num, by norm_num⟩

theorem RR.probOk_iff {fl : ℝ → ℝ} (p : RR fl) : probOk p = true ↔ 0 ≤ p.val ∧ p.val ≤ 1 := by
  rw [probOk, Bool.and_eq_true, RR.le_iff, RR.le_iff, RR.zero_val, RR.one_val]

/-! ### confidences at exact arithmetic -/

/-- two-sided: the model's `1 - (1 - L)/2` is `(1 + L)/2` -/
theorem Confidence.quantile_twoSided_val (l : Rex) :
    (Confidence.twoSided l).quantile.val = (1 + l.val) / 2 := by
  show 1 - (1 - l.val) / (1 + 1) = (1 + l.val) / 2
  ring

theorem Confidence.quantile_val (c : Confidence Rex) :
    c.quantile.val = if c.isTwoSided = true then (1 + c.level.val) / 2 else c.level.val := by
  cases c
  · exact Confidence.quantile_twoSided_val _
  · rfl
  · rfl

theorem Confidence.quantile_le_of_level (c₁ c₂ : Confidence Rex) (hk : c₁.kind = c₂.kind)
    (hl : c₁.level.val ≤ c₂.level.val) : c₁.quantile.val ≤ c₂.quantile.val := by
  cases c₁ <;> cases c₂ <;> simp only [Confidence.kind, reduceCtorEq] at hk <;>
    simp only [Confidence.level] at hl
  · rw [Confidence.quantile_twoSided_val, Confidence.quantile_twoSided_val]
    exact div_le_div_of_nonneg_right (add_le_add_right hl 1) zero_le_two
  · exact hl
  · exact hl

/-- which levels make `inverse_cdf` accept the probability -/
theorem probOk_quantile_iff (conf : Confidence Rex) :
    probOk conf.quantile = true ↔
      (match conf with
       | .twoSided l => -1 ≤ l.val ∧ l.val ≤ 1
       | .upper l => 0 ≤ l.val ∧ l.val ≤ 1
       | .lower l => 0 ≤ l.val ∧ l.val ≤ 1) := by
  rw [RR.probOk_iff]
  cases conf with
  | twoSided l =>
    rw [Confidence.quantile_twoSided_val, le_div_iff₀ (two_pos : (0 : ℝ) < 2),
      div_le_iff₀ (two_pos : (0 : ℝ) < 2), zero_mul, one_mul, ← neg_le_iff_add_nonneg',
      ← one_add_one_eq_two, add_le_add_iff_left]
  | upper l => exact Iff.rfl
  | lower l => exact Iff.rfl

theorem probOk_quantile (conf : Confidence Rex) (h0 : 0 < conf.level.val) (h1 : conf.level.val < 1) :
    probOk conf.quantile = true := by
  rw [probOk_quantile_iff]
  cases conf
  · exact ⟨le_trans (by norm_num) h0.le, h1.le⟩
  · exact ⟨h0.le, h1.le⟩
  · exact ⟨h0.le, h1.le⟩

theorem Confidence.probOk_of_valid_Rex (conf : Confidence Rex)
    (h : Confidence.validLevel conf.level = true) : probOk conf.quantile = true :=
  probOk_quantile conf ((RR.validLevel_iff _).mp h).1 ((RR.validLevel_iff _).mp h).2

namespace QSpec

/-- a confidence level the constructors of `Confidence` accept: strictly between 0 and 1 -/
abbrev ValidLevel (conf : Confidence Rex) : Prop := 0 < conf.level.val ∧ conf.level.val < 1

theorem probOk_of_validLevel {conf : Confidence Rex} (hl : ValidLevel conf) :
    probOk conf.quantile = true := probOk_quantile conf hl.1 hl.2

/-- the critical value the model obtains from the external normal-quantile routine -/
noncomputable abbrev zOf (crit : Crit Rex) (conf : Confidence Rex) : ℝ := (crit (.z conf.quantile)).val

/-- an admissible quantile: strictly between 0 and 1 -/
abbrev ValidQuantile (q : Rex) : Prop := 0 < q.val ∧ q.val < 1

end QSpec

/-- `Interval::new` on `m ∓ h` rejects exactly a negative half-width -/
theorem gt_sub_add_rex (m h : ℝ) : gt (⟨m - h⟩ : Rex) ⟨m + h⟩ = decide (h < 0) := by
  rw [Bool.eq_iff_iff, RR.gt_iff, decide_eq_true_eq]
  dsimp only
  rw [sub_eq_add_neg, add_lt_add_iff_left, lt_neg_self_iff]

end StatsCI
