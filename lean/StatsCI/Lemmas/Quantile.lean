/-
  StatsCI.Lemmas.Quantile — the quantile confidence interval (C03).

  `QSpec`: the real numbers the property speaks of. `centre n k z`, `span n k z` are `Wilson.centre`,
  `Wilson.span` of `Lemmas/Wilson.lean` at natural `n`, `k` (by `rfl`), so its facts apply as they
  stand. `RankRound`: what `Stats::index` and `ci_indices` compute at `RR fl` for an arbitrary
  rounding function. Exact arithmetic `Rex` is the instance `fl = id`: there `ci_indices` is a
  decision list ending in the ranks of the two Wilson numbers. Last, the two test vectors of the
  examples.
-/
import StatsCI.Lemmas.RR
import StatsCI.Lemmas.EntryPoints
import StatsCI.Lemmas.Wilson
import Mathlib.Analysis.Real.Sqrt
import Mathlib.Algebra.Order.Round
import Mathlib.Algebra.Order.Floor.Semiring
import Mathlib.Tactic.Ring
import Mathlib.Tactic.LinearCombination
import Mathlib.Tactic.Positivity
import Mathlib.Tactic.NormNum

namespace StatsCI
namespace QSpec
open Real

noncomputable def centre (n k : ℕ) (z : ℝ) : ℝ := ((k : ℝ) + z ^ 2 / 2) / ((n : ℝ) + z ^ 2)

/-- it carries the sign of `z` -/
noncomputable def span (n k : ℕ) (z : ℝ) : ℝ :=
  z / ((n : ℝ) + z ^ 2) * Real.sqrt ((k : ℝ) * ((n : ℝ) - k) / n + z ^ 2 / 4)

/-- the 0-based rank `Stats::index` reads off a proportion `p`: `min(floor(p·n), n − 1)` -/
noncomputable def rank (n : ℕ) (p : ℝ) : ℕ := min ⌊p * (n : ℝ)⌋₊ (n - 1)

/-- the number of successes `(q·n).round() as usize`: on `q·n ≥ 0` Mathlib's `round` (half up) is
    `f64::round` (half away from zero) -/
noncomputable def successes (q : ℝ) (n : ℕ) : ℕ := (round (q * (n : ℝ))).toNat

noncomputable def pLow (n k : ℕ) (z : ℝ) : ℝ := centre n k z - span n k z
noncomputable def pHigh (n k : ℕ) (z : ℝ) : ℝ := centre n k z + span n k z

section real
variable (n k z : ℝ)

noncomputable def D : ℝ := k * (n - k) / n + z ^ 2 / 4

theorem D_nonneg (hn : 0 < n) (hk0 : 0 ≤ k) (hkn : k ≤ n) : 0 ≤ D n k z :=
  Wilson.D_nonneg n k z hn hk0 hkn

theorem sqrtD_ge (hn : 0 < n) (hk0 : 0 ≤ k) (hkn : k ≤ n) :
    |z * (2 * k - n) / (2 * n)| ≤ sqrt (D n k z) := by
  have h : |z * (n - 2 * k) / (2 * n)| ≤ sqrt (D n k z) := Wilson.sqrtD_ge n k z hn hk0 hkn
  rwa [← abs_neg, show -(z * (n - 2 * k) / (2 * n)) = z * (2 * k - n) / (2 * n) by ring] at h

end real

section nat
variable (n k : ℕ) (z : ℝ)

theorem span_nonneg (hn : 0 < n) (hz : 0 ≤ z) : 0 ≤ span n k z :=
  Wilson.span_nonneg n k z (by exact_mod_cast hn) hz

theorem pLow_le_pHigh (hn : 0 < n) (hz : 0 ≤ z) : pLow n k z ≤ pHigh n k z :=
  (sub_le_self _ (span_nonneg n k z hn hz)).trans (le_add_of_nonneg_right (span_nonneg n k z hn hz))

theorem encloses (hn : 0 < n) (hkn : k ≤ n) (hz : 0 ≤ z) :
    centre n k z - span n k z ≤ (k : ℝ) / n ∧ (k : ℝ) / n ≤ centre n k z + span n k z :=
  Wilson.encloses n k z (Nat.cast_pos.mpr hn) hz k.cast_nonneg (Nat.cast_le.mpr hkn)

/-- strict, because `k/n` is no root of the score equation -/
theorem encloses_strict (hn : 0 < n) (hk0 : 0 < k) (hkn : k < n) (hz : 0 < z) :
    centre n k z - span n k z < (k : ℝ) / n ∧ (k : ℝ) / n < centre n k z + span n k z := by
  have hn' : (0 : ℝ) < n := Nat.cast_pos.mpr hn
  have hk0' : (0 : ℝ) < k := Nat.cast_pos.mpr hk0
  have hkn' : (k : ℝ) < n := Nat.cast_lt.mpr hkn
  have h1 : 0 < 1 - (k : ℝ) / n := sub_pos.mpr ((div_lt_one hn').mpr hkn')
  have hne := (Wilson.score_root_iff n k z (k / n) hn' hk0'.le hkn'.le).not.mp (by
    rw [sub_self, zero_pow two_ne_zero]
    exact (div_pos (mul_pos (pow_pos hz 2) (mul_pos (div_pos hk0' hn') h1)) hn').ne)
  obtain ⟨h1, h2⟩ := encloses n k z hn hkn.le hz.le
  exact ⟨lt_of_le_of_ne h1 fun h => hne (.inl h.symm), lt_of_le_of_ne h2 fun h => hne (.inr h)⟩

theorem pLow_pHigh_eq :
    pLow n k z = ((k : ℝ) + z ^ 2 / 2 - z * Real.sqrt (D n k z)) / ((n : ℝ) + z ^ 2) ∧
    pHigh n k z = ((k : ℝ) + z ^ 2 / 2 + z * Real.sqrt (D n k z)) / ((n : ℝ) + z ^ 2) := by
  constructor
  · rw [sub_div, mul_div_right_comm]; rfl
  · rw [add_div, mul_div_right_comm]; rfl

end nat

theorem rank_le (n : ℕ) (p : ℝ) : rank n p ≤ n - 1 := min_le_right _ _

theorem rank_lt (n : ℕ) (p : ℝ) (hn : 0 < n) : rank n p < n :=
  lt_of_le_of_lt (rank_le n p) (Nat.sub_lt hn Nat.one_pos)

theorem rank_mono (n : ℕ) {p p' : ℝ} (h : p ≤ p') : rank n p ≤ rank n p' :=
  min_le_min (Nat.floor_mono (mul_le_mul_of_nonneg_right h (Nat.cast_nonneg n))) le_rfl

theorem rank_zero (n : ℕ) : rank n 0 = 0 := by
  rw [rank, zero_mul, Nat.floor_zero]
  exact Nat.zero_min _

theorem rank_one (n : ℕ) : rank n 1 = n - 1 := by
  rw [rank, one_mul, Nat.floor_natCast]
  exact min_eq_right (Nat.sub_le n 1)

theorem rank_le_of_le (n k : ℕ) (p : ℝ) (h : p * n ≤ k) : rank n p ≤ k :=
  (min_le_left _ _).trans (Nat.floor_le_of_le h)

theorem rank_lt_of_lt (n k : ℕ) (p : ℝ) (hk : 0 < k) (h : p * n < k) : rank n p < k :=
  (min_le_left _ _).trans_lt ((Nat.floor_lt' hk.ne').mpr h)

theorem le_rank_of_le (n k : ℕ) (p : ℝ) (hk : k ≤ n - 1) (h : (k : ℝ) ≤ p * n) : k ≤ rank n p :=
  le_min (Nat.le_floor h) hk

theorem rank_eq_of (n m : ℕ) (p : ℝ) (h1 : (m : ℝ) ≤ p * n) (h2 : p * n < m + 1)
    (hm : m ≤ n - 1) : rank n p = m := by
  unfold rank
  rw [(Nat.floor_eq_iff (le_trans (Nat.cast_nonneg m) h1)).mpr ⟨h1, h2⟩]
  exact min_eq_left hm

theorem rank_div_eq_of (n m : ℕ) (a N : ℝ) (hN : 0 < N) (h1 : m * N ≤ a * n)
    (h2 : a * n < (m + 1) * N) (hm : m ≤ n - 1) : rank n (a / N) = m := by
  apply rank_eq_of _ _ _ _ _ hm
  · rwa [div_mul_eq_mul_div, le_div_iff₀ hN]
  · rwa [div_mul_eq_mul_div, div_lt_iff₀ hN]

theorem successes_le (q : ℝ) (n : ℕ) (hq : q < 1) : successes q n ≤ n := by
  rw [successes, Int.toNat_le, round_eq, Int.floor_le_iff, Int.cast_natCast]
  exact add_lt_add_of_le_of_lt (mul_le_of_le_one_left n.cast_nonneg hq.le) (by norm_num)

theorem successes_of_mul_eq {q : ℝ} {n k : ℕ} (h : q * n = k) : successes q n = k := by
  unfold successes
  rw [h, round_natCast]; rfl

end QSpec

/-! ### what the model computes at `RR fl`, any rounding function -/

namespace RankRound
open NumOps Scalar QSpec

variable {fl : ℝ → ℝ}

/-- the rank `Quantile.index` computes at `RR fl`: `min ⌊fl (p · fl n)⌋ (n − 1)` -/
noncomputable def rankFl (fl : ℝ → ℝ) (n : ℕ) (p : ℝ) : ℕ := min ⌊fl (p * fl n)⌋₊ (n - 1)

/-- the success count `Quantile.ciIndices` computes at `RR fl`: `round (fl (q · fl n))` -/
noncomputable def succFl (fl : ℝ → ℝ) (q : ℝ) (n : ℕ) : ℕ := (round (fl (q * fl n))).toNat

theorem rankFl_id (n : ℕ) (p : ℝ) : rankFl id n p = rank n p := rfl

theorem succFl_id (q : ℝ) (n : ℕ) : succFl id q n = successes q n := rfl

theorem rankFl_le (n : ℕ) (p : ℝ) : rankFl fl n p ≤ n - 1 := min_le_right _ _

theorem index_fl (n : ℕ) (p : RR fl) :
    Quantile.index n p =
      if n = 0 then .err (.tooFewSamples n)
      else if p.val < 0 ∨ 1 < p.val then .err (.invalidQuantile p)
      else .ok (rankFl fl n p.val) := by
  unfold Quantile.index
  simp only [Bool.or_eq_true, RR.lt_iff, RR.zero_val, RR.one_val]
  rfl

theorem index_fl_eq_ok_iff {n : ℕ} {p : RR fl} {i : ℕ} :
    Quantile.index n p = .ok i ↔ n ≠ 0 ∧ (0 ≤ p.val ∧ p.val ≤ 1) ∧ rankFl fl n p.val = i := by
  simp only [index_fl, ite_eq_iff, reduceCtorEq, and_false, false_or, Outcome.ok.injEq, not_or,
    not_lt]

theorem index_fl_ok (n : ℕ) (p : RR fl) (hn : n ≠ 0) (h0 : 0 ≤ p.val) (h1 : p.val ≤ 1) :
    Quantile.index n p = .ok (rankFl fl n p.val) :=
  index_fl_eq_ok_iff.mpr ⟨hn, ⟨h0, h1⟩, rfl⟩

theorem roundToNat_fl (q : RR fl) (n : ℕ) :
    roundToNat (mul q (Scalar.ofNat n : RR fl)) = succFl fl q.val n := rfl

section ciIndices
open Proportion

variable (crit : Crit (RR fl)) (conf : Confidence (RR fl)) (n : ℕ) (q : RR fl)

/-- at `RR fl`, once `ci_wilson` has returned `[a, b]`: its clamp keeps `0 ≤ a ≤ b ≤ 1`, so both
    `IndexError` tests and the range test of `Stats::index` pass, and what is left is the ranks of
    the two ends in the shape of the confidence -/
theorem ciIndices_of_wilson (hq : 0 < q.val ∧ q.val < 1) (hn4 : 4 ≤ n) {k : ℕ}
    (hk : succFl fl q.val n = k) (a b : RR fl)
    (hW : Proportion.ciWilson crit conf n k = .ok (.twoSided a b)) :
    Quantile.ciIndices crit conf n q =
      match (generalizing := false) conf with
        | .twoSided _ =>
            if rankFl fl n b.val < rankFl fl n a.val then .err (.interval .invalidBounds)
            else .ok (.twoSided (rankFl fl n a.val) (rankFl fl n b.val))
        | .upper _ => .ok (.upper (rankFl fl n a.val))
        | .lower _ => .ok (.lower (rankFl fl n b.val)) := by
  obtain ⟨a', b', hab, ha0, hle, hb1⟩ := WilsonRound.ciWilson_ok_unit crit conf n _ _ hW
  cases hab
  have hq' : (gt q (zero : RR fl) && lt q (one : RR fl)) = true := (RR.validLevel_iff q).mpr hq
  rw [Quantile.ciIndices_eq_bind, if_pos hq', if_neg (not_lt.mpr hn4), roundToNat_fl, hk, hW,
    Outcome.bind_ok]
  unfold Quantile.ranksOf
  simp only [Interval.toPair, RR.lt_iff, RR.gt_iff, RR.zero_val, RR.one_val,
    if_neg (not_lt.mpr ha0), if_neg (not_lt.mpr hb1),
    index_fl_ok n a (by omega) ha0 (hle.trans hb1), index_fl_ok n b (by omega) (ha0.trans hle) hb1,
    Outcome.bind_ok]
  cases conf <;> rfl

/-- `ci_indices` at `RR fl` never returns an `IndexError`, whatever the rounding function:
    `ci_wilson` has no such error, and its clamp keeps both computed bounds inside `[0, 1]` -/
theorem ciIndices_ne_indexError (x : RR fl) (m : ℕ) :
    Quantile.ciIndices crit conf n q ≠ .err (.indexError x m) := by
  intro h
  have h' := h
  rw [Quantile.ciIndices_eq_bind, roundToNat_fl] at h'
  simp only [ite_eq_iff, Outcome.err.injEq, reduceCtorEq, and_false, false_or, or_false,
    Outcome.bind_eq_err_iff] at h'
  obtain ⟨hq, hn4, hW | ⟨pci, hW, -⟩⟩ := h'
  · simp only [Proportion.ciWilson_eq_err_iff, reduceCtorEq, and_false, false_or,
      Proportion.finishWilson_eq, liftI_new_eq_err_iff] at hW
  · obtain ⟨a, b, rfl, -⟩ := WilsonRound.ciWilson_ok_unit crit conf n _ _ hW
    rw [ciIndices_of_wilson crit conf n q ((RR.validLevel_iff q).mp hq) (not_lt.mp hn4) rfl a b hW]
      at h
    cases conf <;> simp only [ite_eq_iff, Outcome.err.injEq, reduceCtorEq, and_false, or_false] at h

theorem ciIndices_ok_inv (I : Interval ℕ) (h : Quantile.ciIndices crit conf n q = .ok I) :
    (0 < q.val ∧ q.val < 1) ∧ 4 ≤ n ∧ ∃ a b : RR fl,
      Proportion.ciWilson crit conf n (succFl fl q.val n) = .ok (.twoSided a b) ∧
      0 ≤ a.val ∧ a.val ≤ b.val ∧ b.val ≤ 1 ∧
      I = shapeOf conf (rankFl fl n a.val) (rankFl fl n b.val) := by
  obtain ⟨hq, hn, pci, hW, -, -, lo, hlo, hi, hhi, -, rfl⟩ := Quantile.ciIndices_eq_ok_iff.mp h
  obtain ⟨a, b, rfl, ha0, hle, hb1⟩ := WilsonRound.ciWilson_ok_unit crit conf n _ _ hW
  cases (index_fl_eq_ok_iff.mp hlo).2.2
  cases (index_fl_eq_ok_iff.mp hhi).2.2
  exact ⟨(RR.validLevel_iff q).mp hq, hn, a, b, hW, ha0, hle, hb1, rfl⟩

end ciIndices

/-- the unclamped constructor `Proportion.finish` (behind `ci_z_normal`; `ci_indices` goes through
    `ci_wilson`, which clamps) at `RR fl`: an `Ok` is two-sided and ordered -/
theorem finish_ok_inv (conf : Confidence (RR fl)) (m s : RR fl) (I : Interval (RR fl))
    (h : Proportion.finish conf m s = .ok I) : ∃ a b, I = .twoSided a b ∧ a.val ≤ b.val := by
  rw [Proportion.finish_eq, liftI_new_eq_ok_iff] at h
  refine ⟨_, _, h.2, ?_⟩
  rw [← not_lt, ← RR.gt_iff, h.1]
  exact Bool.false_ne_true

end RankRound

/-! ### exact arithmetic: the instance `fl = id` -/

namespace Quantile
open NumOps Scalar Proportion QSpec RankRound

theorem roundToNat_eq (q : Rex) (n : ℕ) :
    (roundToNat (mul q (Scalar.ofNat n : Rex))) = successes q.val n := rfl

section branches
variable (crit : Crit Rex) (conf : Confidence Rex) (n : ℕ) (q : Rex)

/-- past the quantile test and the three count tests: `ciIndices_of_wilson` at `fl = id` on
    `Wilson.ciWilson_rex`; the ranks are ordered because `span` has the sign of `z`, so the only
    failure left is the inverted two-sided interval of a negative `z` -/
theorem ciIndices_of_domain (hl : ValidLevel conf) (hq : ValidQuantile q) (hn : 4 ≤ n)
    (hk : 2 ≤ successes q.val n) (hf : 2 ≤ n - successes q.val n) :
    Quantile.ciIndices crit conf n q =
      if conf.isTwoSided = true ∧ zOf crit conf < 0 then .err (.interval .invalidBounds)
      else .ok (shapeOf conf (rank n (pLow n (successes q.val n) (zOf crit conf)))
        (rank n (pHigh n (successes q.val n) (zOf crit conf)))) := by
  have hW := Wilson.ciWilson_rex crit conf n _ hk (by omega) (probOk_of_validLevel hl)
  by_cases hz : conf.isTwoSided = true ∧ zOf crit conf < 0
  · rw [if_pos hz] at hW ⊢
    exact ciIndices_of_wilson_err crit conf ((RR.validLevel_iff q).mpr hq) hn hW
  · rw [if_neg hz] at hW ⊢
    cases conf with
    | twoSided l =>
      rw [ciIndices_of_wilson crit _ n q hq hn rfl _ _ hW]
      exact if_neg (not_lt.mpr (rank_mono n
        (pLow_le_pHigh n _ _ (by omega) (not_lt.mp fun h => hz ⟨rfl, h⟩))))
    | upper l => exact ciIndices_of_wilson crit _ n q hq hn rfl _ _ hW
    | lower l => exact ciIndices_of_wilson crit _ n q hq hn rfl _ _ hW

/-- `ci_indices` at exact arithmetic as its decision list (the `InvalidSuccesses` test of `ci_wilson`
    cannot fire, `successes_le`) -/
theorem ciIndices_eq (hl : ValidLevel conf) :
    Quantile.ciIndices crit conf n q =
      if ¬ ValidQuantile q then .err (.invalidQuantile q)
      else if n < 4 then .err (.tooFewSamples n)
      else if successes q.val n < 2 then
        .err (.tooFewSuccesses (successes q.val n) n (inj (successes q.val n : ℝ)))
      else if n - successes q.val n < 2 then
        .err (.tooFewFailures (n - successes q.val n) n (inj ((n : ℝ) - (successes q.val n : ℝ))))
      else if conf.isTwoSided = true ∧ zOf crit conf < 0 then .err (.interval .invalidBounds)
      else .ok (shapeOf conf (rank n (pLow n (successes q.val n) (zOf crit conf)))
        (rank n (pHigh n (successes q.val n) (zOf crit conf)))) := by
  have hv : (gt q (zero : Rex) && lt q (one : Rex)) = true ↔ ValidQuantile q := RR.validLevel_iff q
  by_cases h1 : ValidQuantile q
  swap
  · rw [if_pos h1, ciIndices_eq_bind, if_neg (mt hv.mp h1)]
  have hq := hv.mpr h1
  rw [if_neg (not_not.mpr h1)]
  by_cases h2 : n < 4
  · rw [if_pos h2, ciIndices_eq_bind, if_pos hq, if_pos h2]
  have hkn := successes_le q.val n h1.2
  rw [if_neg h2]
  by_cases h3 : successes q.val n < 2
  · rw [if_pos h3]
    exact ciIndices_of_wilson_err crit conf hq (not_lt.mp h2)
      (Proportion.ciWilson_eq_err_iff.mpr (.inr (.inl ⟨hkn, h3, rfl⟩)))
  rw [if_neg h3]
  by_cases h4 : n - successes q.val n < 2
  · rw [if_pos h4]
    exact ciIndices_of_wilson_err crit conf hq (not_lt.mp h2)
      (Proportion.ciWilson_eq_err_iff.mpr (.inr (.inr (.inl ⟨hkn, not_lt.mp h3, h4, rfl⟩))))
  rw [if_neg h4]
  exact ciIndices_of_domain crit conf n q hl h1 (not_lt.mp h2) (not_lt.mp h3) (not_lt.mp h4)

/-- a decision list with pairwise distinct verdicts is read by unfolding it with `ite_eq_iff`: two
    distinct constructors are never equal -/
theorem ciIndices_ok_iff (hl : ValidLevel conf) (idx : Interval ℕ) :
    Quantile.ciIndices crit conf n q = .ok idx ↔
      ValidQuantile q ∧ 4 ≤ n ∧ 2 ≤ successes q.val n ∧ 2 ≤ n - successes q.val n ∧
      (conf.isTwoSided = true → 0 ≤ zOf crit conf) ∧
      shapeOf conf (rank n (pLow n (successes q.val n) (zOf crit conf)))
        (rank n (pHigh n (successes q.val n) (zOf crit conf))) = idx := by
  rw [ciIndices_eq crit conf n q hl]
  simp only [ite_eq_iff, reduceCtorEq, and_false, false_or, Outcome.ok.injEq, not_not, not_lt]
  rw [not_and, not_lt]

end branches

end Quantile

namespace QSpec

theorem ranks_10_5_2 : rank 10 (pLow 10 5 2) = 2 ∧ rank 10 (pHigh 10 5 2) = 7 := by
  have e : D ((10 : ℕ) : ℝ) ((5 : ℕ) : ℝ) 2 = 7 / 2 := by norm_num [D]
  have hs1 : (7 / 5 : ℝ) < Real.sqrt (7 / 2) := (Real.lt_sqrt (by norm_num)).mpr (by norm_num)
  have hs2 : Real.sqrt (7 / 2) < (21 / 10 : ℝ) := (Real.sqrt_lt' (by norm_num)).mpr (by norm_num)
  rw [(pLow_pHigh_eq 10 5 2).1, (pLow_pHigh_eq 10 5 2).2, e]
  generalize Real.sqrt (7 / 2) = s at hs1 hs2 ⊢
  constructor
  · apply rank_div_eq_of
    · positivity
    · linear_combination 20 * hs2
    · linear_combination 20 * hs1
    · norm_num
  · apply rank_div_eq_of
    · positivity
    · linear_combination 20 * hs1
    · linear_combination 20 * hs2
    · norm_num

theorem ranks_10_5_tenth : rank 10 (pLow 10 5 (1 / 10)) = 4 ∧ rank 10 (pHigh 10 5 (1 / 10)) = 5 := by
  have e : D ((10 : ℕ) : ℝ) ((5 : ℕ) : ℝ) (1 / 10) = 1001 / 400 := by norm_num [D]
  have hs1 : (0 : ℝ) < Real.sqrt (1001 / 400) := Real.sqrt_pos.mpr (by norm_num)
  have hs2 : Real.sqrt (1001 / 400) < (10 : ℝ) := (Real.sqrt_lt' (by norm_num)).mpr (by norm_num)
  rw [(pLow_pHigh_eq 10 5 (1 / 10)).1, (pLow_pHigh_eq 10 5 (1 / 10)).2, e]
  generalize Real.sqrt (1001 / 400) = s at hs1 hs2 ⊢
  constructor
  · apply rank_div_eq_of
    · positivity
    · linear_combination hs2
    · linear_combination hs1
    · norm_num
  · apply rank_div_eq_of
    · positivity
    · linear_combination hs1
    · linear_combination hs2
    · norm_num

theorem validLevel_example : ValidLevel (.twoSided (inj (9 / 10))) := by
  show 0 < (9 / 10 : ℝ) ∧ (9 / 10 : ℝ) < 1
  norm_num

theorem validQuantile_half : ValidQuantile (inj (1 / 2)) := by
  show 0 < (1 / 2 : ℝ) ∧ (1 / 2 : ℝ) < 1
  norm_num

theorem successes_half_ten : successes (inj (1 / 2) : Rex).val 10 = 5 :=
  successes_of_mul_eq (q := 1 / 2) (by norm_num)

theorem successes_half_ten_bounds :
    2 ≤ successes (inj (1 / 2) : Rex).val 10 ∧ 2 ≤ 10 - successes (inj (1 / 2) : Rex).val 10 := by
  rw [successes_half_ten]
  decide

/-- the instance of the examples (`n = 10`, `q = 1/2`, two-sided, so `k = 5`) at any critical
    value `z` -/
theorem ciIndices_10_half (z : ℝ) :
    Quantile.ciIndices (constCrit z : Crit Rex) (.twoSided (inj (9 / 10))) 10 (inj (1 / 2)) =
      if z < 0 then .err (.interval .invalidBounds)
      else .ok (.twoSided (rank 10 (pLow 10 5 z)) (rank 10 (pHigh 10 5 z))) := by
  rw [Quantile.ciIndices_of_domain _ _ 10 _ validLevel_example validQuantile_half (by norm_num)
    successes_half_ten_bounds.1 successes_half_ten_bounds.2, successes_half_ten]
  exact if_congr (and_iff_right rfl) rfl rfl

theorem ciIndices_10_half_two :
    Quantile.ciIndices (constCrit 2 : Crit Rex) (.twoSided (inj (9 / 10))) 10 (inj (1 / 2)) =
      .ok (.twoSided 2 7) := by
  rw [ciIndices_10_half, if_neg (by norm_num), ranks_10_5_2.1, ranks_10_5_2.2]

end QSpec
end StatsCI
