/-
  StatsCI.Lemmas.Outcome — the stages every entry point of the model is made of, on every carrier.

  The model's functions are chains of guards that end in a constructor. Here: the calculus of
  `Outcome`; the constructor of the kind of a confidence (`shapeOf`, `intervalOfKind_eq`); the
  critical value `interval_bounds` requests (`critValue_eq`); and `finish`, the common tail of
  `Arithmetic::ci_mean` and `Unpaired::ci_mean`. `Lemmas/EntryPoints` reads each entry point with
  them. Only the model is imported: the module sits below the carriers `RR` and `XR`.
-/
import StatsCI.Model.Quantile
import StatsCI.Model.Comparison

namespace StatsCI.MeanLemmas
open StatsCI NumOps Scalar

-- By name these three are `StatsCI.MeanLemmas.Outcome.map_…` (so C03 and MeanSym cite them); every
-- other lemma about `Outcome` is in `StatsCI.Outcome`, below.
@[simp] theorem Outcome.map_ok {ε α β : Type} (f : α → β) (a : α) :
    (Outcome.ok a : Outcome ε α).map f = .ok (f a) := rfl
@[simp] theorem Outcome.map_err {ε α β : Type} (f : α → β) (e : ε) :
    (Outcome.err e : Outcome ε α).map f = .err e := rfl
@[simp] theorem Outcome.map_panic {ε α β : Type} (f : α → β) (t : String) :
    (Outcome.panic t : Outcome ε α).map f = .panic t := rfl

end StatsCI.MeanLemmas

namespace StatsCI
open NumOps Scalar

namespace Outcome
variable {ε α β γ : Type}

@[simp] theorem isPanic_ok (a : α) : (ok a : Outcome ε α).isPanic = false := rfl
@[simp] theorem isPanic_err (e : ε) : (err e : Outcome ε α).isPanic = false := rfl
@[simp] theorem isPanic_panic (t : String) : (panic t : Outcome ε α).isPanic = true := rfl

@[simp] theorem isOk_ok (a : α) : (ok a : Outcome ε α).isOk = true := rfl
@[simp] theorem isOk_err (e : ε) : (err e : Outcome ε α).isOk = false := rfl
@[simp] theorem isOk_panic (t : String) : (panic t : Outcome ε α).isOk = false := rfl

theorem isPanic_iff (x : Outcome ε α) : x.isPanic = true ↔ ∃ t, x = .panic t := by
  cases x <;> simp

theorem bind_eq_ok_iff {x : Outcome ε α} {f : α → Outcome ε β} {b : β} :
    x.bind f = .ok b ↔ ∃ a, x = .ok a ∧ f a = .ok b := by
  cases x <;> simp

theorem bind_eq_err_iff {x : Outcome ε α} {f : α → Outcome ε β} {e : ε} :
    x.bind f = .err e ↔ x = .err e ∨ ∃ a, x = .ok a ∧ f a = .err e := by
  cases x <;> simp

theorem bind_eq_panic {x : Outcome ε α} {f : α → Outcome ε β} {t : String}
    (h : x.bind f = .panic t) : x = .panic t ∨ ∃ a, x = .ok a ∧ f a = .panic t := by
  cases x with
  | ok a => exact Or.inr ⟨a, rfl, h⟩
  | err e => cases h
  | panic s => left; simpa using h

theorem isPanic_bind_iff {x : Outcome ε α} {f : α → Outcome ε β} :
    (x.bind f).isPanic = true ↔ x.isPanic = true ∨ ∃ a, x = .ok a ∧ (f a).isPanic = true := by
  cases x <;> simp

theorem isPanic_bind {x : Outcome ε α} {f : α → Outcome ε β} (hx : x.isPanic = false)
    (hf : ∀ a, x = .ok a → (f a).isPanic = false) : (x.bind f).isPanic = false := by
  cases x with
  | ok a => exact hf a rfl
  | err e => rfl
  | panic t => cases hx

/-! One guard, in the three shapes the model has, each asked the three questions (`= .ok a`,
`= .err e`, `isPanic`): a closed form made of nested guards is read by `simp only` with these. -/

section guards
variable {c : Prop} [Decidable c] {e e' : ε} {t : String} {x : Outcome ε α} {a : α}

theorem ite_err_eq_ok_iff : (if c then .err e else x) = .ok a ↔ ¬c ∧ x = .ok a := by
  split <;> simp [*]

theorem ite_err_eq_err_iff : (if c then .err e' else x) = .err e ↔ c ∧ e = e' ∨ ¬c ∧ x = .err e := by
  split <;> simp [*, eq_comm]

theorem isPanic_ite_err_iff : (if c then .err e else x).isPanic = true ↔ ¬c ∧ x.isPanic = true := by
  split <;> simp [*]

theorem ite_else_err_eq_ok_iff : (if c then x else .err e) = .ok a ↔ c ∧ x = .ok a := by
  split <;> simp [*]

theorem ite_else_err_eq_err_iff :
    (if c then x else .err e') = .err e ↔ c ∧ x = .err e ∨ ¬c ∧ e = e' := by
  split <;> simp [*, eq_comm]

theorem isPanic_ite_else_err_iff :
    (if c then x else .err e).isPanic = true ↔ c ∧ x.isPanic = true := by
  split <;> simp [*]

theorem ite_panic_eq_ok_iff : (if c then x else .panic t) = .ok a ↔ c ∧ x = .ok a := by
  split <;> simp [*]

theorem ite_panic_eq_err_iff : (if c then x else .panic t) = .err e ↔ c ∧ x = .err e := by
  split <;> simp [*]

theorem isPanic_ite_panic_iff :
    (if c then x else .panic t).isPanic = true ↔ ¬c ∨ x.isPanic = true := by
  split <;> simp [*]

theorem isPanic_ite_err (h : x.isPanic = false) : (if c then .err e else x).isPanic = false := by
  split
  · rfl
  · exact h

end guards

theorem map_eq_ok_iff {x : Outcome ε α} {f : α → β} {b : β} :
    x.map f = .ok b ↔ ∃ a, x = .ok a ∧ b = f a := by
  cases x with
  | ok a => simp only [MeanLemmas.Outcome.map_ok, ok.injEq, exists_eq_left']; exact eq_comm
  | err e => simp
  | panic t => simp

theorem map_eq_err_iff {x : Outcome ε α} {f : α → β} {e : ε} : x.map f = .err e ↔ x = .err e := by
  cases x <;> simp

theorem map_eq_panic_iff {x : Outcome ε α} {f : α → β} {t : String} :
    x.map f = .panic t ↔ x = .panic t := by
  cases x <;> simp

@[simp] theorem isOk_map (f : α → β) (x : Outcome ε α) : (x.map f).isOk = x.isOk := by
  cases x <;> rfl

@[simp] theorem isPanic_map (f : α → β) (x : Outcome ε α) : (x.map f).isPanic = x.isPanic := by
  cases x <;> rfl

theorem map_map (f : α → β) (g : β → γ) (x : Outcome ε α) : (x.map f).map g = x.map (g ∘ f) := by
  cases x <;> rfl

theorem map_bind (x : Outcome ε α) (f : α → Outcome ε β) (g : β → γ) :
    (x.bind f).map g = x.bind fun a => (f a).map g := by
  cases x <;> rfl

theorem bind_map (x : Outcome ε α) (f : α → β) (g : β → Outcome ε γ) :
    (x.map f).bind g = x.bind fun a => g (f a) := by
  cases x <;> rfl

theorem bind_ok_eq_map (x : Outcome ε α) (f : α → β) : (x.bind fun a => .ok (f a)) = x.map f := by
  cases x <;> rfl

end Outcome

@[simp] theorem liftI_isPanic {W α : Type} (x : Except IntervalError α) :
    (liftI x : Outcome (Err W) α).isPanic = false := by
  cases x <;> rfl

namespace Confidence
variable {W : Type}

theorem flipped_flipped (c : Confidence W) : c.flipped.flipped = c := by cases c <;> rfl

theorem flipped_quantile [Scalar W] (c : Confidence W) : c.flipped.quantile = c.quantile := by
  cases c <;> rfl

theorem flipped_level (c : Confidence W) : c.flipped.level = c.level := by cases c <;> rfl

theorem flipped_isTwoSided (c : Confidence W) : c.flipped.isTwoSided = c.isTwoSided := by
  cases c <;> rfl

theorem isTwoSided_iff_kind (c : Confidence W) : c.isTwoSided = true ↔ c.kind = .twoSided := by
  cases c <;> simp [isTwoSided, kind]

theorem flipped_isLower (c : Confidence W) : c.flipped.isLower = c.isUpper := by
  cases c <;> rfl

theorem flipped_isUpper (c : Confidence W) : c.flipped.isUpper = c.isLower := by
  cases c <;> rfl

theorem isUpper_congr {c₁ c₂ : Confidence W} (hk : c₁.kind = c₂.kind) :
    c₁.isUpper = c₂.isUpper := by
  cases c₁ <;> cases c₂ <;> simp_all [Confidence.kind, Confidence.isUpper]

theorem flipped_kind_eq (c₁ c₂ : Confidence W) (hk : c₁.kind = c₂.kind) :
    c₁.flipped.kind = c₂.flipped.kind := by
  cases c₁ <;> cases c₂ <;> simp [Confidence.kind, Confidence.flipped] at hk ⊢

end Confidence

theorem Confidence.flipped_kind_twoSided {W : Type} (c : Confidence W) :
    c.flipped.kind = .twoSided ↔ c.kind = .twoSided := by cases c <;> simp [Confidence.flipped, Confidence.kind]

/-! ## the constructor of the kind -/

section shape
variable {W α β : Type}

/-- what `intervalOfKind conf lo hi` answers when it succeeds (`intervalOfKind_eq`): the bound that
    the kind does not have is dropped -/
def shapeOf (conf : Confidence W) (lo hi : α) : Interval α :=
  match conf with
  | .twoSided _ => .twoSided lo hi
  | .upper _ => .upper lo
  | .lower _ => .lower hi

theorem shapeOf_map (conf : Confidence W) (f : α → β) (lo hi : α) :
    (shapeOf conf lo hi).map f = shapeOf conf (f lo) (f hi) := by
  cases conf <;> rfl

theorem shapeOf_flip [NumOps α] (conf : Confidence W) (g : α → α) (lo hi : α) :
    (shapeOf conf.flipped lo hi).appliedFlipped g = shapeOf conf (g hi) (g lo) := by
  cases conf <;> rfl

/-- the ends as `Harmonic::ci_mean` reads them off an interval of the flipped kind -/
theorem shapeOf_read_flipped [e : Extremes α] (conf : Confidence W) (f g : α → β) (lo hi : α) :
    shapeOf conf (f (shapeOf conf.flipped lo hi).highX) (g (shapeOf conf.flipped lo hi).lowX) =
      shapeOf conf (f hi) (g lo) := by
  cases conf <;> rfl

variable [Cmp α]

theorem shapeOf_contains_iff (conf : Confidence W) {lo hi x : α} :
    (shapeOf conf lo hi).contains x = true ↔
      (conf.isLower = false → le lo x = true) ∧ (conf.isUpper = false → le x hi = true) := by
  cases conf <;> simp [shapeOf, Interval.contains, Confidence.isLower, Confidence.isUpper]

theorem shapeOf_includes_iff {c₁ c₂ : Confidence W} (hk : c₁.kind = c₂.kind)
    {lo₁ hi₁ lo₂ hi₂ : α} :
    (shapeOf c₂ lo₂ hi₂).includes (shapeOf c₁ lo₁ hi₁) = true ↔
      (c₁.isLower = false → le lo₂ lo₁ = true) ∧ (c₁.isUpper = false → le hi₁ hi₂ = true) := by
  cases c₁ <;> cases c₂ <;> simp only [Confidence.kind, reduceCtorEq] at hk <;>
    simp [shapeOf, Interval.includes, Confidence.isLower, Confidence.isUpper, ge]

theorem shapeOf_contains (conf : Confidence W) {lo hi x : α}
    (hlo : conf.isLower = false → le lo x = true) (hhi : conf.isUpper = false → le x hi = true) :
    (shapeOf conf lo hi).contains x = true :=
  (shapeOf_contains_iff conf).mpr ⟨hlo, hhi⟩

theorem shapeOf_includes {c₁ c₂ : Confidence W} (hk : c₁.kind = c₂.kind) {lo₁ hi₁ lo₂ hi₂ : α}
    (hlo : c₁.isLower = false → le lo₂ lo₁ = true) (hhi : c₁.isUpper = false → le hi₁ hi₂ = true) :
    (shapeOf c₂ lo₂ hi₂).includes (shapeOf c₁ lo₁ hi₁) = true :=
  (shapeOf_includes_iff hk).mpr ⟨hlo, hhi⟩

theorem liftI_new (lo hi : α) :
    (liftI (Interval.new lo hi) : Outcome (Err W) (Interval α)) =
      if gt lo hi then .err (.interval .invalidBounds) else .ok (.twoSided lo hi) := by
  unfold Interval.new; split <;> rfl

theorem liftI_new_eq_ok_iff {lo hi : α} {i : Interval α} :
    (liftI (Interval.new lo hi) : Outcome (Err W) (Interval α)) = .ok i ↔
      gt lo hi = false ∧ i = .twoSided lo hi := by
  rw [liftI_new, Outcome.ite_err_eq_ok_iff, Outcome.ok.injEq, Bool.not_eq_true, @eq_comm _ i]

theorem liftI_new_eq_err_iff {lo hi : α} {e : Err W} :
    (liftI (Interval.new lo hi) : Outcome (Err W) (Interval α)) = .err e ↔
      gt lo hi = true ∧ e = .interval .invalidBounds := by
  rw [liftI_new, Outcome.ite_err_eq_err_iff]
  simp only [reduceCtorEq, and_false, or_false]

theorem intervalOfKind_eq (conf : Confidence W) (lo hi : α) :
    (intervalOfKind conf lo hi : Outcome (Err W) (Interval α)) =
      if conf.isTwoSided && gt lo hi then .err (.interval .invalidBounds)
      else .ok (shapeOf conf lo hi) := by
  cases conf
  · simp only [intervalOfKind, liftI_new, Confidence.isTwoSided, Bool.true_and]; rfl
  · rfl
  · rfl

@[simp] theorem intervalOfKind_isPanic (conf : Confidence W) (lo hi : α) :
    (intervalOfKind conf lo hi : Outcome (Err W) (Interval α)).isPanic = false := by
  rw [intervalOfKind_eq]; split <;> rfl

theorem intervalOfKind_eq_ok_iff {conf : Confidence W} {lo hi : α} {I : Interval α} :
    (intervalOfKind conf lo hi : Outcome (Err W) (Interval α)) = .ok I ↔
      I = shapeOf conf lo hi ∧ (conf.isTwoSided = true → gt lo hi = false) := by
  rw [intervalOfKind_eq, Outcome.ite_err_eq_ok_iff, Bool.and_eq_true, not_and, Bool.not_eq_true,
    Outcome.ok.injEq, and_comm, eq_comm]

theorem intervalOfKind_eq_err_iff {conf : Confidence W} {lo hi : α} {e : Err W} :
    (intervalOfKind conf lo hi : Outcome (Err W) (Interval α)) = .err e ↔
      e = .interval .invalidBounds ∧ conf.isTwoSided = true ∧ gt lo hi = true := by
  rw [intervalOfKind_eq, Outcome.ite_err_eq_err_iff, Bool.and_eq_true, and_comm]
  simp only [reduceCtorEq, and_false, or_false]

theorem intervalOfKind_eq_ok {conf : Confidence W} {lo hi : α} {i : Interval α}
    (h : (intervalOfKind conf lo hi : Outcome (Err W) (Interval α)) = .ok i) :
    (conf.kind = .twoSided → i = .twoSided lo hi ∧ gt lo hi = false) ∧
    (conf.kind = .upper → i = .upper lo) ∧ (conf.kind = .lower → i = .lower hi) := by
  obtain ⟨rfl, hg⟩ := intervalOfKind_eq_ok_iff.mp h
  cases conf <;> simp [shapeOf, Confidence.kind]
  exact hg rfl

theorem intervalOfKind_map [Cmp β] (conf : Confidence W) (f : α → β) (lo hi : α)
    (hf : gt (f lo) (f hi) = gt lo hi) :
    (intervalOfKind conf (f lo) (f hi) : Outcome (Err W) (Interval β)) =
      (intervalOfKind conf lo hi).map (Interval.map f) := by
  rw [intervalOfKind_eq, intervalOfKind_eq, hf]
  split <;> simp [shapeOf_map]

/-- `lo`/`hi` read off the ends of a first interval of the kind, then the constructor of the kind
    again: only a two-sided first interval can fail. This is the tail of `Geometric::ci_mean`; the
    `…_flipped` twin below is that of `Harmonic::ci_mean`. -/
theorem bind_intervalOfKind_read (e : Extremes α) (conf : Confidence W) (a b : α) (f g : α → α) :
    ((intervalOfKind conf a b : Outcome (Err W) (Interval α)).bind fun J =>
        intervalOfKind conf (f (@Interval.lowX α e J)) (g (@Interval.highX α e J))) =
      if conf.isTwoSided && gt a b then .err (.interval .invalidBounds)
      else intervalOfKind conf (f a) (g b) := by
  rw [intervalOfKind_eq]
  split
  · rfl
  · rw [Outcome.bind_ok]; cases conf <;> rfl

theorem bind_intervalOfKind_read_flipped (e : Extremes α) (conf : Confidence W) (a b : α)
    (f g : α → α) :
    ((intervalOfKind conf.flipped a b : Outcome (Err W) (Interval α)).bind fun J =>
        intervalOfKind conf (f (@Interval.highX α e J)) (g (@Interval.lowX α e J))) =
      if conf.isTwoSided && gt a b then .err (.interval .invalidBounds)
      else intervalOfKind conf (f b) (g a) := by
  rw [intervalOfKind_eq, Confidence.flipped_isTwoSided]
  split
  · rfl
  · rw [Outcome.bind_ok]; cases conf <;> rfl

end shape

section flip
variable {W α : Type} [NumOps α]

theorem intervalOfKind_flip (conf : Confidence W) (g : α → α) (lo hi : α)
    (hg : gt (g hi) (g lo) = gt lo hi) :
    (intervalOfKind conf (g hi) (g lo) : Outcome (Err W) (Interval α)) =
      (intervalOfKind conf.flipped lo hi).map (fun I => I.appliedFlipped g) := by
  rw [intervalOfKind_eq, intervalOfKind_eq, hg, Confidence.flipped_isTwoSided]
  split <;> simp [shapeOf_flip]

end flip

section crit
variable {W : Type} [Scalar W]

theorem zValue_eq (crit : Crit W) (conf : Confidence W) (h : probOk conf.quantile = true) :
    zValue crit conf = .ok (crit (.z conf.quantile)) := by
  simp [zValue, h]

theorem zValue_eq_ok_iff {crit : Crit W} {conf : Confidence W} {z : W} :
    zValue crit conf = .ok z ↔ probOk conf.quantile = true ∧ z = crit (.z conf.quantile) := by
  simp only [zValue, Outcome.ite_panic_eq_ok_iff, Outcome.ok.injEq, @eq_comm _ z]

theorem zValue_panic (crit : Crit W) (conf : Confidence W) (h : probOk conf.quantile = false) :
    zValue crit conf = .panic "inverse_cdf" := by
  simp [zValue, h]

theorem zValue_bind {β : Type} (crit : Crit W) (conf : Confidence W) (f : W → Outcome (Err W) β) :
    (zValue crit conf).bind f =
      if probOk conf.quantile then f (crit (.z conf.quantile)) else .panic "inverse_cdf" := by
  unfold zValue; dsimp only; split <;> rfl

/-- the critical value `interval_bounds` obtains (Student-t below the population limit) -/
def critValue (crit : Crit W) (conf : Confidence W) (dof : W) : Outcome (Err W) W :=
  if lt dof (populationLimit : W) then tValue crit conf dof else zValue crit conf

theorem intervalBounds_eq_map (crit : Crit W) (conf : Confidence W) (m s dof : W) :
    intervalBounds crit conf m s dof =
      (critValue crit conf dof).map fun c => (sub m (mul c s), add m (mul c s)) :=
  Outcome.bind_ok_eq_map _ _

/-- the request as one conditional: Student-t is refused for `dof` not above zero (the `unwrap` of
    `StudentsT::new`), either distribution for a probability outside `[0, 1]`; otherwise the value
    is the answer to `critReq conf dof` -/
theorem critValue_eq (crit : Crit W) (conf : Confidence W) (dof : W) :
    critValue crit conf dof =
      if lt dof (populationLimit : W) = true → gt dof (zero : W) = true then
        if probOk conf.quantile then .ok (crit (critReq conf dof)) else .panic "inverse_cdf"
      else .panic "t_value" := by
  unfold critValue tValue zValue critReq
  cases lt dof (populationLimit : W) <;> cases gt dof (zero : W) <;> rfl

theorem critReq_congr (c₁ c₂ : Confidence W) (hq : c₁.quantile = c₂.quantile) (d : W) :
    critReq c₁ d = critReq c₂ d := by
  simp only [critReq, hq]

theorem critValue_congr (crit : Crit W) {c₁ c₂ : Confidence W} (hq : c₁.quantile = c₂.quantile)
    (dof : W) : critValue crit c₁ dof = critValue crit c₂ dof := by
  rw [critValue_eq, critValue_eq, critReq_congr c₁ c₂ hq, hq]

theorem intervalBounds_congr (crit : Crit W) (c₁ c₂ : Confidence W)
    (hq : c₁.quantile = c₂.quantile) (m s d : W) :
    intervalBounds crit c₁ m s d = intervalBounds crit c₂ m s d := by
  rw [intervalBounds_eq_map, intervalBounds_eq_map, critValue_congr crit hq]

/-- no other request reaches the oracle -/
theorem critValue_congr_crit {crit crit' : Crit W} {conf : Confidence W} {dof : W}
    (h : crit (critReq conf dof) = crit' (critReq conf dof)) :
    critValue crit conf dof = critValue crit' conf dof := by
  rw [critValue_eq, critValue_eq, h]

theorem critValue_eq_ok_iff {crit : Crit W} {conf : Confidence W} {dof c : W} :
    critValue crit conf dof = .ok c ↔
      (lt dof (populationLimit : W) = true → gt dof (zero : W) = true) ∧
        probOk conf.quantile = true ∧ c = crit (critReq conf dof) := by
  simp only [critValue_eq, Outcome.ite_panic_eq_ok_iff, Outcome.ok.injEq, @eq_comm _ c]

theorem intervalBounds_eq_ok_iff {crit : Crit W} {conf : Confidence W} {m s dof : W} {b : W × W} :
    intervalBounds crit conf m s dof = .ok b ↔
      (lt dof (populationLimit : W) = true → gt dof (zero : W) = true) ∧
        probOk conf.quantile = true ∧
        b = (sub m (mul (crit (critReq conf dof)) s), add m (mul (crit (critReq conf dof)) s)) := by
  simp only [intervalBounds_eq_map, Outcome.map_eq_ok_iff, critValue_eq_ok_iff]
  constructor
  · rintro ⟨c, ⟨hd, hp, rfl⟩, rfl⟩; exact ⟨hd, hp, rfl⟩
  · rintro ⟨hd, hp, rfl⟩; exact ⟨_, ⟨hd, hp, rfl⟩, rfl⟩

theorem intervalBounds_isPanic_iff (crit : Crit W) (conf : Confidence W) (m s dof : W) :
    (intervalBounds crit conf m s dof).isPanic = true ↔
      (lt dof (populationLimit : W) = true ∧ gt dof (zero : W) = false) ∨
      probOk conf.quantile = false := by
  simp only [intervalBounds_eq_map, Outcome.isPanic_map, critValue_eq, Outcome.isPanic_ite_panic_iff,
    Outcome.isPanic_ok, Bool.false_eq_true, or_false, Classical.not_imp, Bool.not_eq_true]

end crit

end StatsCI

namespace StatsCI.MeanLemmas
open StatsCI NumOps Scalar

/-- the common tail of `Arithmetic::ci_mean` and `Unpaired::ci_mean`: `interval_bounds`, then the
    constructor of the kind -/
def finish {F W : Type} [Scalar F] [Scalar W] [Widen F W] (crit : Crit W) (conf : Confidence W)
    (p : Outcome (Err W) (Arith.Prep W)) : Outcome (Err W) (Interval F) :=
  p.bind fun p => (intervalBounds crit conf p.mean p.sem p.dof).bind fun b =>
    intervalOfKind conf (Widen.down b.1 : F) (Widen.down b.2 : F)

section finish
variable {F W : Type} [Scalar F] [Scalar W] [Widen F W]

/-- the two bounds `mean ∓ c·sem` at the critical value `c`, narrowed to the data type -/
def Prep.lo (c : W) (p : Arith.Prep W) : F := Widen.down (sub p.mean (mul c p.sem))
def Prep.hi (c : W) (p : Arith.Prep W) : F := Widen.down (add p.mean (mul c p.sem))

theorem finish_ok (crit : Crit W) (conf : Confidence W) (p : Arith.Prep W) :
    (finish crit conf (.ok p) : Outcome (Err W) (Interval F)) =
      (critValue crit conf p.dof).bind fun c => intervalOfKind conf (Prep.lo c p) (Prep.hi c p) := by
  unfold finish
  rw [Outcome.bind_ok, intervalBounds_eq_map, Outcome.bind_map]; rfl

theorem finish_ok_eq (crit : Crit W) (conf : Confidence W) (p : Arith.Prep W) :
    (finish crit conf (.ok p) : Outcome (Err W) (Interval F)) =
      if lt p.dof (populationLimit : W) = true → gt p.dof (zero : W) = true then
        if probOk conf.quantile then
          intervalOfKind conf (Prep.lo (crit (critReq conf p.dof)) p) (Prep.hi (crit (critReq conf p.dof)) p)
        else .panic "inverse_cdf"
      else .panic "t_value" := by
  rw [finish_ok, critValue_eq, apply_ite (Outcome.bind · _), apply_ite (Outcome.bind · _)]
  rfl

theorem finish_eq_bind (crit : Crit W) (conf : Confidence W) (P : Outcome (Err W) (Arith.Prep W)) :
    (finish crit conf P : Outcome (Err W) (Interval F)) = P.bind fun p => finish crit conf (.ok p) :=
  rfl

theorem finish_eq_ok_iff {crit : Crit W} {conf : Confidence W}
    {P : Outcome (Err W) (Arith.Prep W)} {I : Interval F} :
    finish crit conf P = .ok I ↔ ∃ p, P = .ok p ∧
      (lt p.dof (populationLimit : W) = true → gt p.dof (zero : W) = true) ∧
      probOk conf.quantile = true ∧
      I = shapeOf conf (Prep.lo (crit (critReq conf p.dof)) p : F) (Prep.hi (crit (critReq conf p.dof)) p) ∧
      (conf.isTwoSided = true →
        gt (Prep.lo (crit (critReq conf p.dof)) p : F) (Prep.hi (crit (critReq conf p.dof)) p) = false) := by
  rw [finish_eq_bind]
  simp only [Outcome.bind_eq_ok_iff, finish_ok_eq, Outcome.ite_panic_eq_ok_iff,
    intervalOfKind_eq_ok_iff]

theorem finish_isPanic_iff {crit : Crit W} {conf : Confidence W}
    {P : Outcome (Err W) (Arith.Prep W)} :
    (finish crit conf P : Outcome (Err W) (Interval F)).isPanic = true ↔ P.isPanic = true ∨
      ∃ p, P = .ok p ∧ ((lt p.dof (populationLimit : W) = true ∧ gt p.dof (zero : W) = false) ∨
        probOk conf.quantile = false) := by
  rw [finish_eq_bind]
  simp only [Outcome.isPanic_bind_iff, finish_ok_eq, Outcome.isPanic_ite_panic_iff,
    intervalOfKind_isPanic, Bool.false_eq_true, or_false, Classical.not_imp, Bool.not_eq_true]

theorem finish_eq_err_iff {crit : Crit W} {conf : Confidence W}
    {P : Outcome (Err W) (Arith.Prep W)} {e : Err W} :
    (finish crit conf P : Outcome (Err W) (Interval F)) = .err e ↔ P = .err e ∨
      ∃ p, P = .ok p ∧ (lt p.dof (populationLimit : W) = true → gt p.dof (zero : W) = true) ∧
        probOk conf.quantile = true ∧ e = .interval .invalidBounds ∧ conf.isTwoSided = true ∧
        gt (Prep.lo (crit (critReq conf p.dof)) p : F) (Prep.hi (crit (critReq conf p.dof)) p) = true := by
  rw [finish_eq_bind]
  simp only [Outcome.bind_eq_err_iff, finish_ok_eq, Outcome.ite_panic_eq_err_iff,
    intervalOfKind_eq_err_iff]

end finish

end StatsCI.MeanLemmas
