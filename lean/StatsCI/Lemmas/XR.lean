/-
  StatsCI.Lemmas.XR — the extended reals with a NaN: `ℝ ∪ {NaN, −∞, +∞}` as a `Scalar` instance
  with IEEE-754 style comparison and propagation, *exact* on finite values.

  What it models: the special values of `f64` (NaN is absorbing and unordered, `∞ − ∞`, `0·∞`,
  `0/0`, `∞/∞` are NaN, `x/0 = ±∞`, `sqrt`/`ln` of a negative number is NaN, `ln 0 = −∞`,
  `exp(−∞) = 0`). What it does not model: rounding, overflow of finite results, signed zeros.

  After the operations: `recipBound`, `f64::max`/`f64::min` (which ignore a NaN argument) and the
  clamps `ci_wilson` builds from them; that a finite result needs finite operands; then what the
  model's other small functions are on `XR`: the validity test of a level (a valid level gives a
  probability `inverse_cdf` accepts), `clampDof` (the lower bound it puts on the effective degrees
  of freedom), the Wilson numbers at finite arguments.
-/
import StatsCI.Lemmas.EntryPoints
import Mathlib.Analysis.Real.Sqrt
import Mathlib.Analysis.SpecialFunctions.Log.Basic
import Mathlib.Algebra.Order.Round
import Mathlib.Algebra.Order.Floor.Semiring

namespace StatsCI

/-- `ℝ ∪ {NaN, −∞, +∞}` -/
inductive XR where
  | nan
  | ninf
  | pinf
  | fin (r : ℝ)

namespace XR

/-- `<=` of IEEE-754: false whenever a NaN is involved -/
noncomputable def le : XR → XR → Bool
  | nan, _ => false
  | ninf, nan => false
  | ninf, _ => true
  | pinf, pinf => true
  | pinf, _ => false
  | fin _, nan => false
  | fin _, ninf => false
  | fin _, pinf => true
  | fin a, fin b => decide (a ≤ b)

/-- `<` of IEEE-754 -/
noncomputable def lt : XR → XR → Bool
  | nan, _ => false
  | ninf, pinf => true
  | ninf, fin _ => true
  | ninf, _ => false
  | pinf, _ => false
  | fin _, pinf => true
  | fin a, fin b => decide (a < b)
  | fin _, _ => false

/-- `==` of IEEE-754: `NaN ≠ NaN` -/
noncomputable def eq : XR → XR → Bool
  | ninf, ninf => true
  | pinf, pinf => true
  | fin a, fin b => decide (a = b)
  | _, _ => false

def neg : XR → XR
  | nan => nan
  | ninf => pinf
  | pinf => ninf
  | fin r => fin (-r)

noncomputable def add : XR → XR → XR
  | nan, _ => nan
  | ninf, nan => nan
  | ninf, pinf => nan
  | ninf, _ => ninf
  | pinf, nan => nan
  | pinf, ninf => nan
  | pinf, _ => pinf
  | fin _, nan => nan
  | fin _, ninf => ninf
  | fin _, pinf => pinf
  | fin a, fin b => fin (a + b)

noncomputable def sub : XR → XR → XR
  | fin a, fin b => fin (a - b)
  | a, b => add a (neg b)

/-- `(±∞) · x`, the sign of the infinity given by `pos` -/
noncomputable def mulInf (pos : Bool) : XR → XR
  | nan => nan
  | pinf => if pos then pinf else ninf
  | ninf => if pos then ninf else pinf
  | fin r => if r = 0 then nan else if 0 < r then (if pos then pinf else ninf)
      else (if pos then ninf else pinf)

noncomputable def mul : XR → XR → XR
  | nan, _ => nan
  | pinf, x => mulInf true x
  | ninf, x => mulInf false x
  | fin _, nan => nan
  | fin r, pinf => mulInf true (fin r)
  | fin r, ninf => mulInf false (fin r)
  | fin a, fin b => fin (a * b)

/-- IEEE division with a single (positive) zero: `x/0 = ±∞` by the sign of `x`, `0/0 = NaN` -/
noncomputable def div : XR → XR → XR
  | nan, _ => nan
  | pinf, fin r => if r < 0 then ninf else pinf
  | pinf, _ => nan
  | ninf, fin r => if r < 0 then pinf else ninf
  | ninf, _ => nan
  | fin _, nan => nan
  | fin _, pinf => fin 0
  | fin _, ninf => fin 0
  | fin a, fin b =>
      if b = 0 then (if a = 0 then nan else if 0 < a then pinf else ninf) else fin (a / b)

noncomputable def sqrt : XR → XR
  | nan => nan
  | ninf => nan
  | pinf => pinf
  | fin r => if r < 0 then nan else fin (Real.sqrt r)

noncomputable def ln : XR → XR
  | nan => nan
  | ninf => nan
  | pinf => pinf
  | fin r => if r < 0 then nan else if r = 0 then ninf else fin (Real.log r)

noncomputable def exp : XR → XR
  | nan => nan
  | ninf => fin 0
  | pinf => pinf
  | fin r => fin (Real.exp r)

def isFinite : XR → Bool
  | fin _ => true
  | _ => false

/-- `x.floor() as usize`: NaN and negatives ↦ 0, `+∞` saturates -/
noncomputable def floorToNat : XR → Nat
  | nan => 0
  | ninf => 0
  | pinf => 2 ^ 64 - 1
  | fin r => ⌊r⌋₊

/-- `x.round() as usize`. Mathlib's `round` takes a tie upwards, `f64::round` away from zero: they
    differ on negative numbers only, which `toNat` sends to `0` as `as usize` does. -/
noncomputable def roundToNat : XR → Nat
  | nan => 0
  | ninf => 0
  | pinf => 2 ^ 64 - 1
  | fin r => (round r).toNat

noncomputable instance instScalar : Scalar XR where
  le := XR.le
  lt := XR.lt
  eq := XR.eq
  add := XR.add
  sub := XR.sub
  mul := XR.mul
  div := XR.div
  neg := XR.neg
  zero := fin 0
  one := fin 1
  sqrt := XR.sqrt
  ln := XR.ln
  exp := XR.exp
  ofNat n := fin n
  isFinite := XR.isFinite
  floorToNat := XR.floorToNat
  roundToNat := XR.roundToNat
  posInf := pinf
  negInf := ninf

instance : Widen XR XR := ⟨id, id⟩

@[simp] theorem zero_eq : (NumOps.zero : XR) = fin 0 := rfl
@[simp] theorem one_eq : (NumOps.one : XR) = fin 1 := rfl
@[simp] theorem ofNat_eq (n : Nat) : (Scalar.ofNat n : XR) = fin n := rfl
@[simp] theorem posInf_eq : (Scalar.posInf : XR) = pinf := rfl
@[simp] theorem negInf_eq : (Scalar.negInf : XR) = ninf := rfl
@[simp] theorem up_eq (a : XR) : (Widen.up a : XR) = a := rfl
@[simp] theorem down_eq (a : XR) : (Widen.down a : XR) = a := rfl

@[simp] theorem le_nan_left (x : XR) : Cmp.le nan x = false := rfl
@[simp] theorem le_nan_right (x : XR) : Cmp.le x nan = false := by cases x <;> rfl
@[simp] theorem lt_nan_left (x : XR) : Cmp.lt nan x = false := rfl
@[simp] theorem lt_nan_right (x : XR) : Cmp.lt x nan = false := by cases x <;> rfl
@[simp] theorem eq_nan_left (x : XR) : Cmp.eq nan x = false := rfl
@[simp] theorem eq_nan_right (x : XR) : Cmp.eq x nan = false := by cases x <;> rfl

@[simp] theorem le_fin_fin (a b : ℝ) : Cmp.le (fin a) (fin b) = decide (a ≤ b) := rfl
@[simp] theorem lt_fin_fin (a b : ℝ) : Cmp.lt (fin a) (fin b) = decide (a < b) := rfl
@[simp] theorem eq_fin_fin (a b : ℝ) : Cmp.eq (fin a) (fin b) = decide (a = b) := rfl

@[simp] theorem le_ninf_ninf : Cmp.le ninf ninf = true := rfl
@[simp] theorem le_ninf_pinf : Cmp.le ninf pinf = true := rfl
@[simp] theorem le_ninf_fin (a : ℝ) : Cmp.le ninf (fin a) = true := rfl
@[simp] theorem le_pinf_ninf : Cmp.le pinf ninf = false := rfl
@[simp] theorem le_pinf_pinf : Cmp.le pinf pinf = true := rfl
@[simp] theorem le_pinf_fin (a : ℝ) : Cmp.le pinf (fin a) = false := rfl
@[simp] theorem le_fin_ninf (a : ℝ) : Cmp.le (fin a) ninf = false := rfl
@[simp] theorem le_fin_pinf (a : ℝ) : Cmp.le (fin a) pinf = true := rfl

@[simp] theorem lt_ninf_ninf : Cmp.lt ninf ninf = false := rfl
@[simp] theorem lt_ninf_pinf : Cmp.lt ninf pinf = true := rfl
@[simp] theorem lt_ninf_fin (a : ℝ) : Cmp.lt ninf (fin a) = true := rfl
@[simp] theorem lt_pinf (x : XR) : Cmp.lt pinf x = false := rfl
@[simp] theorem lt_fin_ninf (a : ℝ) : Cmp.lt (fin a) ninf = false := rfl
@[simp] theorem lt_fin_pinf (a : ℝ) : Cmp.lt (fin a) pinf = true := rfl

@[simp] theorem eq_ninf_ninf : Cmp.eq ninf ninf = true := rfl
@[simp] theorem eq_pinf_pinf : Cmp.eq pinf pinf = true := rfl
@[simp] theorem eq_ninf_pinf : Cmp.eq ninf pinf = false := rfl
@[simp] theorem eq_pinf_ninf : Cmp.eq pinf ninf = false := rfl
@[simp] theorem eq_ninf_fin (a : ℝ) : Cmp.eq ninf (fin a) = false := rfl
@[simp] theorem eq_pinf_fin (a : ℝ) : Cmp.eq pinf (fin a) = false := rfl
@[simp] theorem eq_fin_ninf (a : ℝ) : Cmp.eq (fin a) ninf = false := rfl
@[simp] theorem eq_fin_pinf (a : ℝ) : Cmp.eq (fin a) pinf = false := rfl

@[simp] theorem ge_def (a b : XR) : ge a b = Cmp.le b a := rfl
@[simp] theorem gt_def (a b : XR) : gt a b = Cmp.lt b a := rfl

theorem not_gt_fin_iff {a b : ℝ} : gt (fin a) (fin b) = false ↔ a ≤ b := by
  simp

theorem le_self_iff (x : XR) : Cmp.le x x = true ↔ x ≠ nan := by
  cases x <;> simp

theorem le_self_eq_false_iff (x : XR) : Cmp.le x x = false ↔ x = nan := by
  cases x <;> simp

@[simp] theorem isFinite_fin (a : ℝ) : Scalar.isFinite (fin a) = true := rfl
@[simp] theorem isFinite_nan : Scalar.isFinite nan = false := rfl
@[simp] theorem isFinite_ninf : Scalar.isFinite ninf = false := rfl
@[simp] theorem isFinite_pinf : Scalar.isFinite pinf = false := rfl

theorem isFinite_iff (x : XR) : Scalar.isFinite x = true ↔ ∃ r, x = fin r := by
  cases x <;> simp

/-! ### arithmetic: exact on finite values -/

@[simp] theorem add_fin_fin (a b : ℝ) : NumOps.add (fin a) (fin b) = fin (a + b) := rfl
@[simp] theorem sub_fin_fin (a b : ℝ) : NumOps.sub (fin a) (fin b) = fin (a - b) := rfl
@[simp] theorem mul_fin_fin (a b : ℝ) : NumOps.mul (fin a) (fin b) = fin (a * b) := rfl
@[simp] theorem neg_fin (a : ℝ) : NumOps.neg (fin a) = fin (-a) := rfl
theorem div_fin_fin (a b : ℝ) : NumOps.div (fin a) (fin b) =
    if b = 0 then (if a = 0 then nan else if 0 < a then pinf else ninf) else fin (a / b) := rfl
@[simp] theorem div_fin_fin_of_ne (a : ℝ) {b : ℝ} (h : b ≠ 0) :
    NumOps.div (fin a) (fin b) = fin (a / b) := by simp [div_fin_fin, h]
@[simp] theorem div_zero_zero : NumOps.div (fin 0) (fin 0) = nan := by simp [div_fin_fin]
theorem sqrt_fin (a : ℝ) : Scalar.sqrt (fin a) = if a < 0 then nan else fin (Real.sqrt a) := rfl
@[simp] theorem sqrt_fin_of_nonneg {a : ℝ} (h : 0 ≤ a) : Scalar.sqrt (fin a) = fin (Real.sqrt a) := by
  simp [sqrt_fin, not_lt.mpr h]
theorem ln_fin (a : ℝ) : Scalar.ln (fin a) =
    if a < 0 then nan else if a = 0 then ninf else fin (Real.log a) := rfl
@[simp] theorem ln_fin_of_pos {a : ℝ} (h : 0 < a) : Scalar.ln (fin a) = fin (Real.log a) := by
  simp [ln_fin, not_lt.mpr h.le, h.ne']
@[simp] theorem exp_fin (a : ℝ) : Scalar.exp (fin a) = fin (Real.exp a) := rfl
@[simp] theorem exp_ninf : Scalar.exp ninf = fin 0 := rfl
@[simp] theorem floorToNat_fin (a : ℝ) : Scalar.floorToNat (fin a) = ⌊a⌋₊ := rfl
@[simp] theorem roundToNat_fin (a : ℝ) : Scalar.roundToNat (fin a) = (round a).toNat := rfl
@[simp] theorem floorToNat_nan : Scalar.floorToNat nan = 0 := rfl
@[simp] theorem roundToNat_nan : Scalar.roundToNat nan = 0 := rfl

/-! ### arithmetic: NaN is absorbing -/

@[simp] theorem add_nan_left (x : XR) : NumOps.add nan x = nan := rfl
@[simp] theorem add_nan_right (x : XR) : NumOps.add x nan = nan := by cases x <;> rfl
@[simp] theorem sub_nan_left (x : XR) : NumOps.sub nan x = nan := by cases x <;> rfl
@[simp] theorem sub_nan_right (x : XR) : NumOps.sub x nan = nan := by cases x <;> rfl
@[simp] theorem mul_nan_left (x : XR) : NumOps.mul nan x = nan := rfl
@[simp] theorem mul_nan_right (x : XR) : NumOps.mul x nan = nan := by cases x <;> rfl
@[simp] theorem div_nan_left (x : XR) : NumOps.div nan x = nan := rfl
@[simp] theorem div_nan_right (x : XR) : NumOps.div x nan = nan := by cases x <;> rfl
@[simp] theorem neg_nan : NumOps.neg nan = nan := rfl
@[simp] theorem sqrt_nan : Scalar.sqrt nan = nan := rfl
@[simp] theorem ln_nan : Scalar.ln nan = nan := rfl
@[simp] theorem exp_nan : Scalar.exp nan = nan := rfl

/-! ### arithmetic: the documented special cases -/

@[simp] theorem pinf_sub_pinf : NumOps.sub pinf pinf = nan := rfl
@[simp] theorem ninf_sub_ninf : NumOps.sub ninf ninf = nan := rfl
@[simp] theorem pinf_add_ninf : NumOps.add pinf ninf = nan := rfl
@[simp] theorem ninf_add_pinf : NumOps.add ninf pinf = nan := rfl
@[simp] theorem zero_mul_pinf : NumOps.mul (fin 0) pinf = nan := by
  show XR.mulInf true (fin 0) = nan; simp [XR.mulInf]
@[simp] theorem pinf_mul_zero : NumOps.mul pinf (fin 0) = nan := by
  show XR.mulInf true (fin 0) = nan; simp [XR.mulInf]
@[simp] theorem zero_mul_ninf : NumOps.mul (fin 0) ninf = nan := by
  show XR.mulInf false (fin 0) = nan; simp [XR.mulInf]
@[simp] theorem ninf_mul_zero : NumOps.mul ninf (fin 0) = nan := by
  show XR.mulInf false (fin 0) = nan; simp [XR.mulInf]
theorem div_zero_of_pos {a : ℝ} (h : 0 < a) : NumOps.div (fin a) (fin 0) = pinf := by
  simp [div_fin_fin, h.ne', h]
theorem div_zero_of_neg {a : ℝ} (h : a < 0) : NumOps.div (fin a) (fin 0) = ninf := by
  simp [div_fin_fin, h.ne, not_lt.mpr h.le]
@[simp] theorem sqrt_neg {a : ℝ} (h : a < 0) : Scalar.sqrt (fin a) = nan := by simp [sqrt_fin, h]
@[simp] theorem sqrt_ninf : Scalar.sqrt ninf = nan := rfl
@[simp] theorem sqrt_pinf : Scalar.sqrt pinf = pinf := rfl
@[simp] theorem ln_neg {a : ℝ} (h : a < 0) : Scalar.ln (fin a) = nan := by simp [ln_fin, h]
@[simp] theorem ln_zero : Scalar.ln (fin 0) = ninf := by simp [ln_fin]
@[simp] theorem ln_ninf : Scalar.ln ninf = nan := rfl
@[simp] theorem ln_pinf : Scalar.ln pinf = pinf := rfl

/-- `1/x` of a finite `x` is never a NaN (it is `+∞` at `x = 0`) -/
theorem one_div_fin_ne_nan (x : ℝ) : NumOps.div (NumOps.one : XR) (fin x) ≠ nan := by
  by_cases hx : x = 0
  · subst hx
    rw [one_eq, div_zero_of_pos one_pos]; simp
  · rw [one_eq, div_fin_fin_of_ne _ hx]; simp

theorem recipBound_fin (x : ℝ) :
    Harmonic.recipBound (fin x) = if 0 < x then fin (1 / x) else pinf := by
  by_cases hx : 0 < x
  · rw [if_pos hx, Harmonic.recipBound_of_pos (fin x) (decide_eq_true hx), one_eq,
      div_fin_fin_of_ne _ hx.ne']
  · rw [if_neg hx, Harmonic.recipBound_of_not_pos (fin x) (decide_eq_false hx), posInf_eq]

/-! ### `f64::max` / `f64::min` -/

@[simp] theorem fmax_fin_fin (a b : ℝ) : fmax (fin a) (fin b) = fin (max a b) := by
  unfold fmax
  by_cases h : a < b
  · simp [h, max_eq_right h.le]
  · have h' : b ≤ a := not_lt.mp h
    simp [h, h']

@[simp] theorem fmin_fin_fin (a b : ℝ) : fmin (fin a) (fin b) = fin (min a b) := by
  unfold fmin
  by_cases h : b < a
  · simp [h, min_eq_right h.le]
  · have h' : a ≤ b := not_lt.mp h
    simp [h, h']

@[simp] theorem fmax_nan_left (x : XR) : fmax nan x = x := by unfold fmax; cases x <;> simp
@[simp] theorem fmin_nan_left (x : XR) : fmin nan x = x := by unfold fmin; cases x <;> simp
@[simp] theorem fmax_pinf_fin (b : ℝ) : fmax pinf (fin b) = pinf := by unfold fmax; simp
@[simp] theorem fmax_ninf_fin (b : ℝ) : fmax ninf (fin b) = fin b := by unfold fmax; simp
@[simp] theorem fmin_pinf_fin (b : ℝ) : fmin pinf (fin b) = fin b := by unfold fmin; simp
@[simp] theorem fmin_ninf_fin (b : ℝ) : fmin ninf (fin b) = ninf := by unfold fmin; simp

/-- `x.max(0.)` is `+∞` or a finite number `≥ 0` — whatever `x` is (NaN and `−∞` give `0`) -/
theorem fmax_zero_cases (x : XR) :
    fmax x (fin 0) = pinf ∨ ∃ r : ℝ, fmax x (fin 0) = fin r ∧ 0 ≤ r := by
  cases x with
  | nan => exact Or.inr ⟨0, fmax_nan_left _, le_rfl⟩
  | ninf => exact Or.inr ⟨0, fmax_ninf_fin 0, le_rfl⟩
  | pinf => exact Or.inl (fmax_pinf_fin 0)
  | fin r => exact Or.inr ⟨max r 0, fmax_fin_fin r 0, le_max_right _ _⟩

/-- `x.min(1.)` is `−∞` or a finite number `≤ 1` — whatever `x` is (NaN and `+∞` give `1`) -/
theorem fmin_one_cases (x : XR) :
    fmin x (fin 1) = ninf ∨ ∃ r : ℝ, fmin x (fin 1) = fin r ∧ r ≤ 1 := by
  cases x with
  | nan => exact Or.inr ⟨1, fmin_nan_left _, le_rfl⟩
  | ninf => exact Or.inl (fmin_ninf_fin 1)
  | pinf => exact Or.inr ⟨1, fmin_pinf_fin 1, le_rfl⟩
  | fin r => exact Or.inr ⟨min r 1, fmin_fin_fin r 1, min_le_right _ _⟩

/-- the clamps of the one-sided arms of `ci_wilson`, `x.max(0.).min(1.)` and `x.min(1.).max(0.)`: a
    finite number in `[0, 1]`, whatever `x` is -/
theorem fmin_fmax_unit_cases (x : XR) :
    ∃ r : ℝ, fmin (fmax x (fin 0)) (fin 1) = fin r ∧ 0 ≤ r ∧ r ≤ 1 := by
  rcases fmax_zero_cases x with h | ⟨r, h, hr⟩ <;> rw [h]
  · exact ⟨1, fmin_pinf_fin 1, zero_le_one, le_rfl⟩
  · exact ⟨min r 1, fmin_fin_fin r 1, le_min hr zero_le_one, min_le_right _ _⟩

theorem fmax_fmin_unit_cases (x : XR) :
    ∃ r : ℝ, fmax (fmin x (fin 1)) (fin 0) = fin r ∧ 0 ≤ r ∧ r ≤ 1 := by
  rcases fmin_one_cases x with h | ⟨r, h, hr⟩ <;> rw [h]
  · exact ⟨0, fmax_ninf_fin 0, le_rfl, zero_le_one⟩
  · exact ⟨max r 0, fmax_fin_fin r 0, le_max_right _ _, max_le hr zero_le_one⟩

/-! ### a finite result needs finite operands (non-finite values propagate) -/

theorem isFinite_add {a b : XR} (h : Scalar.isFinite (NumOps.add a b) = true) :
    Scalar.isFinite a = true ∧ Scalar.isFinite b = true := by
  cases a <;> cases b <;> cases h
  exact ⟨rfl, rfl⟩

theorem isFinite_sub {a b : XR} (h : Scalar.isFinite (NumOps.sub a b) = true) :
    Scalar.isFinite a = true ∧ Scalar.isFinite b = true := by
  cases a <;> cases b <;> cases h
  exact ⟨rfl, rfl⟩

theorem isFinite_ite (c : Prop) [Decidable c] {x y : XR} (hx : Scalar.isFinite x = false)
    (hy : Scalar.isFinite y = false) : Scalar.isFinite (if c then x else y) = false := by
  split <;> assumption

theorem isFinite_mulInf (pos : Bool) (x : XR) : Scalar.isFinite (mulInf pos x) = false := by
  cases x with
  | nan => rfl
  | pinf => exact isFinite_ite _ rfl rfl
  | ninf => exact isFinite_ite _ rfl rfl
  | fin r =>
    exact isFinite_ite _ rfl (isFinite_ite _ (isFinite_ite _ rfl rfl) (isFinite_ite _ rfl rfl))

theorem isFinite_mul {a b : XR} (h : Scalar.isFinite (NumOps.mul a b) = true) :
    Scalar.isFinite a = true ∧ Scalar.isFinite b = true := by
  have key : ∀ pos x, Scalar.isFinite (mulInf pos x) = true → False := fun pos x k => by
    rw [isFinite_mulInf] at k; cases k
  cases a with
  | nan => exact (Bool.false_ne_true h).elim
  | pinf => exact (key true b h).elim
  | ninf => exact (key false b h).elim
  | fin r =>
    cases b with
    | nan => exact (Bool.false_ne_true h).elim
    | pinf => exact (key true (fin r) h).elim
    | ninf => exact (key false (fin r) h).elim
    | fin s => exact ⟨rfl, rfl⟩

theorem isFinite_div_left {a b : XR} (h : Scalar.isFinite (NumOps.div a b) = true) :
    Scalar.isFinite a = true := by
  cases a with
  | fin _ => rfl
  | nan => cases h
  | pinf =>
    cases b with
    | fin r => exact (Bool.eq_false_iff.mp (isFinite_ite (r < 0) rfl rfl) h).elim
    | nan => cases h
    | ninf => cases h
    | pinf => cases h
  | ninf =>
    cases b with
    | fin r => exact (Bool.eq_false_iff.mp (isFinite_ite (r < 0) rfl rfl) h).elim
    | nan => cases h
    | ninf => cases h
    | pinf => cases h

theorem isFinite_sqrt {a : XR} (h : Scalar.isFinite (Scalar.sqrt a) = true) :
    Scalar.isFinite a = true := by
  cases a <;> first | rfl | exact (Bool.false_ne_true h).elim

end XR

/-! ### valid confidence levels, and that they give probabilities `inverse_cdf` accepts -/

theorem XR.validLevel_fin (r : ℝ) : Confidence.validLevel (XR.fin r) = true ↔ 0 < r ∧ r < 1 := by
  rw [Confidence.validLevel, Bool.and_eq_true, XR.gt_def, XR.zero_eq, XR.one_eq, XR.lt_fin_fin,
    XR.lt_fin_fin, decide_eq_true_eq, decide_eq_true_eq]

theorem XR.validLevel_fin_eq_false {r : ℝ} (hr : r ≤ 0 ∨ 1 ≤ r) :
    Confidence.validLevel (XR.fin r) = false := by
  rw [Bool.eq_false_iff, Ne, XR.validLevel_fin, not_and_or, not_lt, not_lt]
  exact hr

theorem XR.validLevel_iff (l : XR) :
    Confidence.validLevel l = true ↔ ∃ r : ℝ, l = .fin r ∧ 0 < r ∧ r < 1 := by
  constructor
  · intro h
    cases l with
    | fin r => exact ⟨r, rfl, (XR.validLevel_fin r).mp h⟩
    | nan => cases h
    | ninf => cases h
    | pinf => cases h
  · rintro ⟨r, rfl, h⟩
    exact (XR.validLevel_fin r).mpr h

theorem XR.probOk_fin (r : ℝ) : probOk (XR.fin r) = true ↔ 0 ≤ r ∧ r ≤ 1 := by
  rw [probOk, Bool.and_eq_true, XR.zero_eq, XR.one_eq, XR.le_fin_fin, XR.le_fin_fin,
    decide_eq_true_eq, decide_eq_true_eq]

namespace Confidence
open NumOps Scalar

theorem quantile_twoSided_XR (r : ℝ) :
    (Confidence.twoSided (XR.fin r)).quantile = XR.fin ((1 + r) / 2) := by
  show NumOps.sub (XR.fin 1) (NumOps.div (NumOps.sub (XR.fin 1) (XR.fin r))
    (NumOps.add (XR.fin 1) (XR.fin 1))) = _
  rw [XR.sub_fin_fin, XR.add_fin_fin, XR.div_fin_fin_of_ne _ (by norm_num), XR.sub_fin_fin]
  congr 1
  ring

theorem probOk_of_valid_XR (conf : Confidence XR) (h : validLevel conf.level = true) :
    probOk conf.quantile = true := by
  cases conf <;> obtain ⟨r, rfl, h0, h1⟩ := (XR.validLevel_iff _).mp h
  · rw [quantile_twoSided_XR, XR.probOk_fin]
    exact ⟨div_nonneg (add_nonneg zero_le_one h0.le) zero_le_two,
      (div_le_one (two_pos : (0 : ℝ) < 2)).mpr
        (le_of_le_of_eq (add_le_add_right h1.le 1) one_add_one_eq_two)⟩
  · exact (XR.probOk_fin r).mpr ⟨h0.le, h1.le⟩
  · exact (XR.probOk_fin r).mpr ⟨h0.le, h1.le⟩

end Confidence

/-! ### the lower bound on the effective degrees of freedom keeps `t_value` from panicking -/

theorem min_count_sub_one_pos {a b : ℕ} (ha : 2 ≤ a) (hb : 2 ≤ b) : (0 : ℝ) < min (a : ℝ) b - 1 :=
  sub_pos.mpr (lt_min (Nat.one_lt_cast.mpr ha) (Nat.one_lt_cast.mpr hb))

namespace XR

/-- whatever was computed — a NaN, `±∞`, any number — the value bounded below by `min(na, nb) − 1`
    is none that `t_value` refuses: if it compares below anything at all (so it is neither a NaN nor
    `+∞`, and the t branch may be taken) it is above zero -/
theorem clampDof_gt_zero (d : XR) {na nb : ℕ} (hna : 2 ≤ na) (hnb : 2 ≤ nb) {L : XR}
    (hL : Cmp.lt (Unpaired.clampDof d (fin na) (fin nb)) L = true) :
    gt (Unpaired.clampDof d (fin na) (fin nb)) (NumOps.zero : XR) = true := by
  have hm : 0 < min (na : ℝ) nb - 1 := min_count_sub_one_pos hna hnb
  have e : Unpaired.clampDof d (fin na) (fin nb) =
      if Cmp.lt d (fin (min (na : ℝ) nb - 1)) then fin (min (na : ℝ) nb - 1) else d := by
    unfold Unpaired.clampDof
    rw [fmin_fin_fin]
    rfl
  rw [e] at hL ⊢
  split at hL <;> rename_i h
  · rw [if_pos h]
    exact decide_eq_true hm
  · rw [if_neg h]
    cases d with
    | nan => cases hL
    | ninf => exact absurd rfl h
    | pinf => cases hL
    | fin r => exact decide_eq_true (lt_of_lt_of_le hm (not_lt.mp fun k => h (decide_eq_true k)))

end XR

/-- on extended reals the wide type is the data type: both evaluations agree -/
theorem Unpaired.dofW_eq_dofF_XR (u : Unpaired XR) : (Unpaired.dofW u : XR) = Unpaired.dofF u := by
  simp only [Unpaired.dofW, Unpaired.dofF, XR.up_eq]

namespace XR

/-- the Wilson numbers on `XR` at a finite critical value are the real-number formulas: no
    denominator (`n + z²`, `n`, `2`, `4`) is zero and the radicand is not negative -/
theorem wilson_fin {n k : ℕ} (hn : 0 < n) (hk : k ≤ n) (z : ℝ) :
    Proportion.wilsonCentre (fin n) (fin k) (fin z) =
      fin ((k + z * z / (1 + 1)) / (n + z * z)) ∧
    Proportion.wilsonSpan (fin n) (fin k) (fin z) =
      fin (z / (n + z * z) * Real.sqrt (k * (n - k) / n + z * z / (1 + 1 + (1 + 1)))) := by
  have h2 : (0 : ℝ) < 1 + 1 := add_pos one_pos one_pos
  have h4 : (0 : ℝ) < 1 + 1 + (1 + 1) := add_pos h2 h2
  have hn' : (0 : ℝ) < n := Nat.cast_pos.mpr hn
  have hd : (n : ℝ) + z * z ≠ 0 := (add_pos_of_pos_of_nonneg hn' (mul_self_nonneg z)).ne'
  have harg : (0 : ℝ) ≤ k * (n - k) / n + z * z / (1 + 1 + (1 + 1)) :=
    add_nonneg
      (div_nonneg (mul_nonneg (Nat.cast_nonneg k) (sub_nonneg.mpr (Nat.cast_le.mpr hk))) hn'.le)
      (div_nonneg (mul_self_nonneg z) h4.le)
  simp only [Proportion.wilsonCentre, Proportion.wilsonSpan, one_eq, mul_fin_fin, add_fin_fin,
    sub_fin_fin, div_fin_fin_of_ne _ h2.ne', div_fin_fin_of_ne _ h4.ne', div_fin_fin_of_ne _ hd,
    div_fin_fin_of_ne _ hn'.ne', sqrt_fin_of_nonneg harg, and_self]

end XR

end StatsCI
