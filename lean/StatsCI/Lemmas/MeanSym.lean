/-
  StatsCI.Lemmas.MeanSym — symmetries of the mean computations over `RR fl`:
  scaling by a factor that commutes with rounding, negation under odd rounding,
  exchange of the two samples of `Unpaired`, and (exact arithmetic) shifts and the harmonic interval
  when the reciprocals are scaled.

  Each symmetry is shown on the prepared statistics (`prepOf_*`; for scaling, `smul a` passes through
  every rounded operation when `fl (a·x) = a·fl x`), taken through the guards (at `RR fl` every
  finiteness test passes: `ciPrep_rr`) and through the common tail `finish` by `finish_equivariant`.
-/
import StatsCI.Lemmas.MeanExact
import StatsCI.Lemmas.EntryPoints

namespace StatsCI.MeanLemmas
open StatsCI NumOps Scalar

section rr
variable {fl : ℝ → ℝ}

/-- multiplication by a real constant, *not* rounded (the transformation applied to the data) -/
def smul (a : ℝ) (x : RR fl) : RR fl := ⟨a * x.val⟩
@[simp] theorem smul_val (a : ℝ) (x : RR fl) : (smul a x).val = a * x.val := rfl

theorem smul_one (x : RR fl) : smul 1 x = x := by apply RR.ext'; simp
theorem smul_neg_one (x : RR fl) : smul (-1) x = neg x := by apply RR.ext'; simp

theorem hfl_sq {a : ℝ} (hfl : ∀ x, fl (a * x) = a * fl x) (x : ℝ) :
    fl (a * a * x) = a * a * fl x := by
  rw [mul_assoc, hfl, hfl, mul_assoc]

theorem add_smul_smul {a : ℝ} (hfl : ∀ x, fl (a * x) = a * fl x) (x y : RR fl) :
    add (smul a x) (smul a y) = smul a (add x y) :=
  RR.ext' (by simp only [RR.add_val, smul_val, ← mul_add, hfl])

theorem sub_smul_smul {a : ℝ} (hfl : ∀ x, fl (a * x) = a * fl x) (x y : RR fl) :
    sub (smul a x) (smul a y) = smul a (sub x y) :=
  RR.ext' (by simp only [RR.sub_val, smul_val, ← mul_sub, hfl])

theorem mul_smul_smul {a b : ℝ} (hfl : ∀ x, fl (a * b * x) = a * b * fl x) (x y : RR fl) :
    mul (smul a x) (smul b y) = smul (a * b) (mul x y) :=
  RR.ext' (by simp only [RR.mul_val, smul_val, mul_mul_mul_comm a, hfl])

theorem div_smul_left {a : ℝ} (hfl : ∀ x, fl (a * x) = a * fl x) (x n : RR fl) :
    div (smul a x) n = smul a (div x n) :=
  RR.ext' (by simp only [RR.div_val, smul_val, mul_div_assoc, hfl])

theorem div_smul_smul {a : ℝ} (ha : a ≠ 0) (x y : RR fl) : div (smul a x) (smul a y) = div x y :=
  RR.ext' (by simp only [RR.div_val, smul_val, mul_div_mul_left _ _ ha])

theorem sqrt_smul_sq {a : ℝ} (habs : ∀ x, fl (|a| * x) = |a| * fl x) (x : RR fl) :
    sqrt (smul (a * a) x) = smul |a| (sqrt x) :=
  RR.ext' (by
    simp only [RR.sqrt_val, smul_val, Real.sqrt_mul (mul_self_nonneg a), Real.sqrt_mul_self_eq_abs,
      habs])

def Prep.scale2 (a b : ℝ) (p : Arith.Prep (RR fl)) : Arith.Prep (RR fl) :=
  ⟨smul a p.mean, smul b p.sem, p.dof⟩

def Prep.shift (k : ℝ) (p : Arith.Prep (RR fl)) : Arith.Prep (RR fl) :=
  ⟨⟨p.mean.val + k⟩, p.sem, p.dof⟩

/-- If the transformation `T` of the prepared statistics acts on the pair of bounds as `H`, whatever
    the critical value, and the constructor of the kind turns `H` into `G`, then the tail turns `T`
    into `G`. The request for the critical value is the same on both sides (`hq`, `hd`). -/
theorem finish_equivariant {F W : Type} [Scalar F] [Scalar W] [Widen F W] (crit : Crit W)
    (conf conf' : Confidence W) (hq : conf.quantile = conf'.quantile)
    (T : Arith.Prep W → Arith.Prep W) (H : W × W → W × W) (G : Interval F → Interval F)
    (hd : ∀ p, (T p).dof = p.dof)
    (hb : ∀ (p : Arith.Prep W) (c : W),
      (sub (T p).mean (mul c (T p).sem), add (T p).mean (mul c (T p).sem)) =
        H (sub p.mean (mul c p.sem), add p.mean (mul c p.sem)))
    (hk : ∀ b : W × W, intervalOfKind conf (Widen.down (H b).1 : F) (Widen.down (H b).2) =
      (intervalOfKind conf' (Widen.down b.1 : F) (Widen.down b.2)).map G)
    (P : Outcome (Err W) (Arith.Prep W)) :
    (finish crit conf (P.map T) : Outcome (Err W) (Interval F)) = (finish crit conf' P).map G := by
  unfold finish
  rw [Outcome.bind_map, Outcome.map_bind]
  congr 1; funext p
  rw [intervalBounds_eq_map, intervalBounds_eq_map, hd, critValue_congr crit hq, Outcome.bind_map,
    Outcome.bind_map, Outcome.map_bind]
  congr 1; funext c
  rw [hb, hk]

theorem gt_smul {a : ℝ} (ha : 0 < a) (x y : RR fl) : gt (smul a x) (smul a y) = gt x y :=
  gt_congr (mul_lt_mul_iff_right₀ ha)

theorem gt_smul_neg_one (x y : RR fl) : gt (smul (-1) y) (smul (-1) x) = gt x y :=
  gt_congr (by simp)

theorem negI_eq (I : Interval (RR fl)) : I.negI = I.appliedFlipped (smul (-1)) := by
  cases I <;> simp [Interval.negI, Interval.appliedFlipped, smul_neg_one]

/-- odd rounding: `fl (-m - h) = -fl (m + h)`, so negating the mean mirrors the interval -/
theorem finish_neg (hodd : ∀ x, fl (-x) = -fl x) (crit : Crit (RR fl)) (conf : Confidence (RR fl))
    (p : Outcome (Err (RR fl)) (Arith.Prep (RR fl))) :
    (finish crit conf (p.map (Prep.scale2 (-1) 1)) : Outcome (Err (RR fl)) (Interval (RR fl))) =
      (finish crit conf.flipped p).map Interval.negI := by
  rw [funext negI_eq]
  refine finish_equivariant crit conf conf.flipped conf.flipped_quantile.symm (Prep.scale2 (-1) 1)
    (fun b => (smul (-1) b.2, smul (-1) b.1)) _ (fun _ => rfl) (fun p c => ?_)
    (fun b => intervalOfKind_flip conf (smul (-1)) b.1 b.2 (gt_smul_neg_one _ _)) p
  refine Prod.ext (RR.ext' ?_) (RR.ext' ?_) <;>
    simp only [Prep.scale2, smul_one, smul_val, RR.sub_val, RR.add_val, neg_one_mul, ← hodd, neg_add',
      neg_sub, neg_add_eq_sub]

theorem finish_scale {a : ℝ} (ha : 0 < a) (hfl : ∀ x, fl (a * x) = a * fl x) (crit : Crit (RR fl))
    (conf : Confidence (RR fl)) (p : Outcome (Err (RR fl)) (Arith.Prep (RR fl))) :
    (finish crit conf (p.map (Prep.scale2 a a)) : Outcome (Err (RR fl)) (Interval (RR fl))) =
      (finish crit conf p).map (Interval.map (smul a)) := by
  refine finish_equivariant crit conf conf rfl (Prep.scale2 a a) (fun b => (smul a b.1, smul a b.2)) _
    (fun _ => rfl) (fun p c => ?_)
    (fun b => intervalOfKind_map conf (smul a) b.1 b.2 (gt_smul ha _ _)) p
  have h1 : mul c (smul a p.sem) = smul a (mul c p.sem) :=
    RR.ext' (by rw [RR.mul_val, smul_val, mul_left_comm, hfl]; rfl)
  simp only [Prep.scale2, h1, sub_smul_smul hfl, add_smul_smul hfl]

def ksmul (a : ℝ) (k : Kahan (RR fl)) : Kahan (RR fl) := ⟨smul a k.sum, smul a k.comp⟩

def asmul (a : ℝ) (A : Arith (RR fl)) : Arith (RR fl) :=
  ⟨ksmul a A.sum, ksmul (a * a) A.sumSq, A.count⟩

@[simp] theorem asmul_count (a : ℝ) (A : Arith (RR fl)) : (asmul a A).count = A.count := rfl

theorem Kahan.add_smul {a : ℝ} (hfl : ∀ x, fl (a * x) = a * fl x) (k : Kahan (RR fl))
    (x : RR fl) : (ksmul a k).add (smul a x) = ksmul a (k.add x) := by
  simp only [Kahan.add, ksmul, sub_smul_smul hfl, add_smul_smul hfl]

theorem Kahan.value_smul {a : ℝ} (hfl : ∀ x, fl (a * x) = a * fl x) (k : Kahan (RR fl)) :
    (ksmul a k).value = smul a k.value :=
  add_smul_smul hfl k.sum k.comp

theorem Arith.append_smul {a : ℝ} (hfl : ∀ x, fl (a * x) = a * fl x) (A : Arith (RR fl))
    (x : RR fl) : (asmul a A).append (smul a x) = asmul a (A.append x) := by
  simp only [Arith.append, asmul, mul_smul_smul (hfl_sq hfl), Kahan.add_smul hfl,
    Kahan.add_smul (hfl_sq hfl)]

theorem Arith.extend_smul {a : ℝ} (hfl : ∀ x, fl (a * x) = a * fl x) (A : Arith (RR fl))
    (xs : List (RR fl)) :
    (asmul a A).extend (xs.map (smul a)) = asmul a (A.extend xs) := by
  induction xs generalizing A with
  | nil => rfl
  | cons x xs ih =>
    simp only [List.map_cons, Arith.extend_cons, Arith.append_smul hfl, ih]

theorem Arith.asmul_empty (a : ℝ) : asmul a (Arith.empty : Arith (RR fl)) = Arith.empty := by
  have h0 : ∀ b : ℝ, smul b (zero : RR fl) = zero := by
    intro b; apply RR.ext'; simp
  simp only [asmul, Arith.empty, ksmul, Kahan.empty, Kahan.new, h0]

theorem Arith.fromList_smul {a : ℝ} (hfl : ∀ x, fl (a * x) = a * fl x) (xs : List (RR fl)) :
    Arith.fromList (xs.map (smul a)) = asmul a (Arith.fromList xs) := by
  unfold Arith.fromList
  rw [← Arith.extend_smul hfl, Arith.asmul_empty]

theorem Arith.mean_smul {a : ℝ} (hfl : ∀ x, fl (a * x) = a * fl x) (A : Arith (RR fl)) :
    (asmul a A).mean = smul a A.mean := by
  simp only [Arith.mean, asmul, Kahan.value_smul hfl, div_smul_left hfl]

theorem rawVar_smul {a : ℝ} (hfl : ∀ x, fl (a * x) = a * fl x) (A : Arith (RR fl)) :
    rawVar (asmul a A) = smul (a * a) (rawVar A) := by
  unfold rawVar
  rw [Arith.mean_smul hfl]
  simp only [asmul, Kahan.value_smul hfl, Kahan.value_smul (hfl_sq hfl), mul_smul_smul (hfl_sq hfl),
    sub_smul_smul (hfl_sq hfl), div_smul_left (hfl_sq hfl)]

/-- the clamp at zero commutes with the factor `a² ≥ 0` -/
theorem Arith.variance_smul {a : ℝ} (hfl : ∀ x, fl (a * x) = a * fl x) (A : Arith (RR fl)) :
    (asmul a A).variance = smul (a * a) A.variance := by
  apply RR.ext'
  rw [Arith.variance_val, rawVar_smul hfl, smul_val, smul_val, Arith.variance_val,
    mul_max_of_nonneg _ _ (mul_self_nonneg a), mul_zero]

theorem Arith.stdDev_smul {a : ℝ} (hfl : ∀ x, fl (a * x) = a * fl x)
    (habs : ∀ x, fl (|a| * x) = |a| * fl x) (A : Arith (RR fl)) :
    (asmul a A).stdDev = smul |a| A.stdDev := by
  unfold Arith.stdDev
  rw [Arith.variance_smul hfl, sqrt_smul_sq habs]

theorem Arith.ciPrep_map_of {A B : Arith (RR fl)} (T : Arith.Prep (RR fl) → Arith.Prep (RR fl))
    (hc : B.count = A.count) (hp : 2 ≤ A.count → Arith.prepOf B = T (Arith.prepOf A)) :
    (Arith.ciPrep B : Outcome (Err (RR fl)) (Arith.Prep (RR fl))) = (Arith.ciPrep A).map T := by
  rw [Arith.ciPrep_rr, Arith.ciPrep_rr, hc]
  split <;> rename_i h
  · rfl
  · rw [hp (Nat.le_of_not_lt h)]
    rfl

theorem Arith.prepOf_smul {a : ℝ} (hfl : ∀ x, fl (a * x) = a * fl x)
    (habs : ∀ x, fl (|a| * x) = |a| * fl x) (A : Arith (RR fl)) :
    (Arith.prepOf (asmul a A) : Arith.Prep (RR fl)) = Prep.scale2 a |a| (Arith.prepOf A) := by
  unfold Arith.prepOf Prep.scale2
  rw [Arith.mean_smul hfl, Arith.stdDev_smul hfl habs]
  congr 1
  exact div_smul_left habs _ _

theorem Arith.ciPrep_smul {a : ℝ} (hfl : ∀ x, fl (a * x) = a * fl x)
    (habs : ∀ x, fl (|a| * x) = |a| * fl x) (A : Arith (RR fl)) :
    (Arith.ciPrep (asmul a A) : Outcome (Err (RR fl)) (Arith.Prep (RR fl))) =
      (Arith.ciPrep A).map (Prep.scale2 a |a|) :=
  Arith.ciPrep_map_of _ rfl fun _ => Arith.prepOf_smul hfl habs A

theorem add_comm_fl (x y : RR fl) : add x y = add y x := RR.ext' (congrArg fl (add_comm _ _))

theorem effectiveDof_swap (A B na nb : RR fl) :
    Unpaired.effectiveDof B A nb na = Unpaired.effectiveDof A B na nb := by
  unfold Unpaired.effectiveDof
  rw [add_comm_fl B A, add_comm_fl (div (mul B B) (add nb one))]

/-- exchanging the two samples negates the mean difference (odd rounding) and leaves the standard
    error and the degrees of freedom unchanged -/
theorem Unpaired.prepOf_swap (hodd : ∀ x, fl (-x) = -fl x) (u : Unpaired (RR fl)) :
    (Unpaired.prepOf (⟨u.b, u.a⟩ : Unpaired (RR fl)) : Arith.Prep (RR fl)) =
      Prep.scale2 (-1) 1 (Unpaired.prepOf u) := by
  unfold Unpaired.prepOf Prep.scale2 Unpaired.dofW
  rw [effectiveDof_swap, Unpaired.clampDof_swap, smul_one]
  congr 1
  · apply RR.ext'
    show fl (u.b.mean.val - u.a.mean.val) = -1 * fl (u.a.mean.val - u.b.mean.val)
    rw [neg_one_mul, ← hodd, neg_sub]
  · exact congrArg sqrt (add_comm_fl _ _)

/-- … also through the guards, unless both samples are too small with different sizes: then the
    reported `TooFewSamples(n)` names the first sample, which is the other one -/
theorem Unpaired.ciPrep_swap (hodd : ∀ x, fl (-x) = -fl x) (u : Unpaired (RR fl))
    (hcount : u.a.count < 2 → u.b.count < 2 → u.a.count = u.b.count) :
    (Unpaired.ciPrep (⟨u.b, u.a⟩ : Unpaired (RR fl)) : Outcome (Err (RR fl)) (Arith.Prep (RR fl))) =
      (Unpaired.ciPrep u).map (Prep.scale2 (-1) 1) := by
  rw [Unpaired.ciPrep_rr, Unpaired.ciPrep_rr, Unpaired.prepOf_swap hodd]
  dsimp only
  by_cases ha : u.a.count < 2
  · by_cases hb : u.b.count < 2
    · rw [if_pos hb, if_pos ha, hcount ha hb]; rfl
    · rw [if_neg hb, if_pos ha, if_pos ha]; rfl
  · by_cases hb : u.b.count < 2
    · rw [if_pos hb, if_neg ha, if_pos hb]; rfl
    · rw [if_neg hb, if_neg ha, if_neg ha, if_neg hb]; rfl

theorem effectiveDof_scale {c : ℝ} (hc : c ≠ 0) (hfl : ∀ x, fl (c * x) = c * fl x)
    (A B na nb : RR fl) :
    Unpaired.effectiveDof (smul c A) (smul c B) na nb = Unpaired.effectiveDof A B na nb := by
  simp only [Unpaired.effectiveDof, add_smul_smul hfl, mul_smul_smul (hfl_sq hfl)]
  -- numerator and denominator both carry `c²`
  rw [div_smul_left (hfl_sq hfl) (mul A A), div_smul_left (hfl_sq hfl) (mul B B),
    add_smul_smul (hfl_sq hfl), div_smul_smul (mul_ne_zero hc hc)]

theorem Unpaired.s2n_smul {a : ℝ} (hfl : ∀ x, fl (a * x) = a * fl x)
    (habs : ∀ x, fl (|a| * x) = |a| * fl x) (A : Arith (RR fl)) :
    Unpaired.s2n (asmul a A) = smul (a * a) (Unpaired.s2n A) := by
  unfold Unpaired.s2n
  rw [Arith.stdDev_smul hfl habs, mul_smul_smul (hfl_sq habs), abs_mul_abs_self]
  exact div_smul_left (hfl_sq hfl) _ _

theorem Unpaired.prepOf_smul {a : ℝ} (ha : a ≠ 0) (hfl : ∀ x, fl (a * x) = a * fl x)
    (habs : ∀ x, fl (|a| * x) = |a| * fl x) (u : Unpaired (RR fl)) :
    (Unpaired.prepOf (⟨asmul a u.a, asmul a u.b⟩ : Unpaired (RR fl)) : Arith.Prep (RR fl)) =
      Prep.scale2 a |a| (Unpaired.prepOf u) := by
  unfold Unpaired.prepOf Prep.scale2 Unpaired.meanDiff Unpaired.semF Unpaired.dofW
  simp only [Unpaired.s2n_smul hfl habs, Arith.mean_smul hfl, asmul_count, RR.up_eq,
    effectiveDof_scale (mul_ne_zero ha ha) (hfl_sq hfl), sub_smul_smul hfl,
    add_smul_smul (hfl_sq hfl), sqrt_smul_sq habs]

theorem Unpaired.ciPrep_smul {a : ℝ} (ha : a ≠ 0) (hfl : ∀ x, fl (a * x) = a * fl x)
    (habs : ∀ x, fl (|a| * x) = |a| * fl x) (u : Unpaired (RR fl)) :
    (Unpaired.ciPrep (⟨asmul a u.a, asmul a u.b⟩ : Unpaired (RR fl)) :
        Outcome (Err (RR fl)) (Arith.Prep (RR fl))) =
      (Unpaired.ciPrep u).map (Prep.scale2 a |a|) := by
  rw [Unpaired.ciPrep_rr, Unpaired.ciPrep_rr, Unpaired.prepOf_smul ha hfl habs]
  rw [apply_ite (Outcome.map _), apply_ite (Outcome.map _)]
  rfl

theorem habs_of_pos {a : ℝ} (ha : 0 < a) (hfl : ∀ x, fl (a * x) = a * fl x) :
    ∀ x, fl (|a| * x) = |a| * fl x := by
  rw [abs_of_pos ha]; exact hfl

/-! ### negation as the case `a = -1` -/

theorem hfl_neg_one (hodd : ∀ x, fl (-x) = -fl x) (x : ℝ) : fl (-1 * x) = -1 * fl x := by
  rw [neg_one_mul, neg_one_mul, hodd]

theorem habs_neg_one (x : ℝ) : fl (|(-1 : ℝ)| * x) = |(-1 : ℝ)| * fl x := by
  simp

theorem map_neg_eq_smul (xs : List (RR fl)) : xs.map NumOps.neg = xs.map (smul (-1)) :=
  List.map_congr_left fun x _ => (smul_neg_one x).symm

theorem ksmul_one (k : Kahan (RR fl)) : ksmul 1 k = k := by
  cases k
  simp [ksmul, smul_one]

/-! ### data multiplied by `a`: mean by `a`, standard error by `|a|`, then the tail -/

theorem Arith.ci_smul {a : ℝ} (hfl : ∀ x, fl (a * x) = a * fl x)
    (habs : ∀ x, fl (|a| * x) = |a| * fl x) (crit : Crit (RR fl)) (conf : Confidence (RR fl))
    (xs : List (RR fl)) :
    Arith.ci crit conf (xs.map (smul a)) =
      finish crit conf ((Arith.ciPrep (Arith.fromList xs)).map (Prep.scale2 a |a|)) := by
  unfold Arith.ci
  rw [Arith.fromList_smul hfl, Arith.ciMean_eq_finish, Arith.ciPrep_smul hfl habs]

theorem Unpaired.ci_smul {a : ℝ} (ha : a ≠ 0) (hfl : ∀ x, fl (a * x) = a * fl x)
    (habs : ∀ x, fl (|a| * x) = |a| * fl x) (crit : Crit (RR fl)) (conf : Confidence (RR fl))
    (xs ys : List (RR fl)) :
    Unpaired.ci crit conf (xs.map (smul a)) (ys.map (smul a)) =
      finish crit conf ((Unpaired.ciPrep (Unpaired.fromLists xs ys)).map (Prep.scale2 a |a|)) := by
  have hu : Unpaired.fromLists (xs.map (smul a)) (ys.map (smul a)) =
      ⟨asmul a (Unpaired.fromLists xs ys).a, asmul a (Unpaired.fromLists xs ys).b⟩ :=
    congrArg₂ Unpaired.mk (Arith.fromList_smul hfl xs) (Arith.fromList_smul hfl ys)
  unfold Unpaired.ci
  rw [hu, Unpaired.ciMean_eq_finish, Unpaired.ciPrep_smul ha hfl habs]

theorem zipWith_sub_smul {a : ℝ} (hfl : ∀ x, fl (a * x) = a * fl x) (as bs : List (RR fl)) :
    List.zipWith NumOps.sub (as.map (smul a)) (bs.map (smul a)) =
      (List.zipWith NumOps.sub as bs).map (smul a) := by
  rw [List.zipWith_map, List.map_zipWith]
  congr 1
  funext x y
  exact sub_smul_smul hfl x y

end rr

theorem Arith.ciMean_asmul {fl : ℝ → ℝ} {a : ℝ} (ha : 0 < a) (hfl : ∀ x, fl (a * x) = a * fl x)
    (crit : Crit (RR fl)) (conf : Confidence (RR fl)) (A : Arith (RR fl)) :
    (asmul a A).ciMean crit conf = (A.ciMean crit conf).map (Interval.map (smul a)) := by
  rw [Arith.ciMean_eq_finish, Arith.ciMean_eq_finish,
    Arith.ciPrep_smul hfl (habs_of_pos ha hfl), abs_of_pos ha, finish_scale ha hfl]

theorem Arith.ci_scale {fl : ℝ → ℝ} {a : ℝ} (ha : 0 < a) (hfl : ∀ x, fl (a * x) = a * fl x)
    (crit : Crit (RR fl)) (conf : Confidence (RR fl)) (xs : List (RR fl)) :
    Arith.ci crit conf (xs.map (smul a)) =
      (Arith.ci crit conf xs).map (Interval.map (smul a)) := by
  unfold Arith.ci
  rw [Arith.fromList_smul hfl, Arith.ciMean_asmul ha hfl]

/-- the stand-ins `⟨0⟩` of `Rex` for the missing end of a one-sided interval are fixed by scaling -/
theorem ends_map_smul (c : ℝ) (I : Interval Rex) :
    @Interval.highX Rex ⟨negInf, posInf⟩ (I.map (smul c)) =
        smul c (@Interval.highX Rex ⟨negInf, posInf⟩ I) ∧
    @Interval.lowX Rex ⟨negInf, posInf⟩ (I.map (smul c)) =
        smul c (@Interval.lowX Rex ⟨negInf, posInf⟩ I) := by
  have h0 : (⟨0⟩ : Rex) = smul c ⟨0⟩ := RR.ext' (mul_zero c).symm
  cases I
  · exact ⟨rfl, rfl⟩
  · exact ⟨h0, rfl⟩
  · exact ⟨rfl, h0⟩

theorem recipBound_smul_inv {a : ℝ} (ha : 0 < a) (x : Rex) :
    Harmonic.recipBound (smul a⁻¹ x) = smul a (Harmonic.recipBound x) := by
  have hg : gt (smul a⁻¹ x) (zero : Rex) = gt x (zero : Rex) :=
    gt_congr (mul_pos_iff_of_pos_left (inv_pos.mpr ha))
  unfold Harmonic.recipBound
  rw [hg]
  split
  · apply RR.ext'
    simp only [RR.div_val, RR.one_val, smul_val, id_eq, one_div, mul_inv, inv_inv]
  · exact RR.ext' (mul_zero a).symm

theorem Harmonic.ciMean_asmul_inv (crit : Crit Rex) (conf : Confidence Rex) (A : Arith Rex)
    (a : ℝ) (ha : 0 < a) :
    Harmonic.ciMean crit (⟨asmul a⁻¹ A⟩ : Harmonic Rex) conf =
      (Harmonic.ciMean crit (⟨A⟩ : Harmonic Rex) conf).map (Interval.map (smul a)) := by
  have hfl : ∀ x : ℝ, (id : ℝ → ℝ) (a⁻¹ * x) = a⁻¹ * id x := fun _ => rfl
  unfold Harmonic.ciMean
  dsimp only
  rw [Arith.ciMean_asmul (inv_pos.mpr ha) hfl]
  cases A.ciMean crit conf.flipped with
  | err e => rfl
  | panic t => rfl
  | ok I =>
    rw [Outcome.map_ok, Outcome.bind_ok, Outcome.bind_ok, (ends_map_smul _ I).1,
      (ends_map_smul _ I).2, recipBound_smul_inv ha, recipBound_smul_inv ha]
    exact intervalOfKind_map conf (smul a) _ _ (gt_smul ha _ _)

theorem addScalar_eq (I : Interval Rex) (k : ℝ) :
    I.addScalar (inj k) = I.map (fun x => (⟨x.val + k⟩ : Rex)) := by
  have hadd : ∀ x : Rex, add x (inj k) = (⟨x.val + k⟩ : Rex) := fun x => by apply RR.ext'; simp
  cases I <;> simp [Interval.addScalar, Interval.appliedBoth, Interval.applied, Interval.map, hadd]

theorem finish_shift (crit : Crit Rex) (conf : Confidence Rex) (k : ℝ)
    (p : Outcome (Err Rex) (Arith.Prep Rex)) :
    (finish crit conf (p.map (Prep.shift k)) : Outcome (Err Rex) (Interval Rex)) =
      (finish crit conf p).map (fun I => I.addScalar (inj k)) := by
  rw [funext fun I => addScalar_eq I k]
  exact finish_equivariant crit conf conf rfl (Prep.shift k)
    (fun b => (⟨b.1.val + k⟩, ⟨b.2.val + k⟩)) _ (fun _ => rfl)
    (fun p c => Prod.ext (RR.ext' (add_sub_right_comm _ _ _)) (RR.ext' (add_right_comm _ _ _)))
    (fun b => intervalOfKind_map conf (fun x : Rex => (⟨x.val + k⟩ : Rex)) b.1 b.2
      (gt_congr (add_lt_add_iff_right k))) p

theorem Arith.ciPrep_shift (xs : List ℝ) (k : ℝ) :
    (Arith.ciPrep (Arith.fromList ((xs.map (fun x => x + k)).map inj) : Arith Rex) :
        Outcome (Err Rex) (Arith.Prep Rex)) =
      (Arith.ciPrep (Arith.fromList (xs.map inj) : Arith Rex)).map (Prep.shift k) := by
  have hc : (Arith.fromList ((xs.map (fun x => x + k)).map inj) : Arith Rex).count =
      (Arith.fromList (xs.map inj) : Arith Rex).count := by
    rw [MeanRound.fromList_count', MeanRound.fromList_count', List.length_map]
  refine Arith.ciPrep_map_of _ hc fun hn => ?_
  rw [MeanRound.fromList_count'] at hn
  have hm : (Arith.fromList ((xs.map (fun x => x + k)).map inj) : Arith Rex).mean =
      ⟨(Arith.fromList (xs.map inj) : Arith Rex).mean.val + k⟩ :=
    RR.ext' (by rw [Arith.fromList_mean, Arith.fromList_mean, smean_shift xs k (by omega)])
  have hs : (Arith.fromList ((xs.map (fun x => x + k)).map inj) : Arith Rex).stdDev =
      (Arith.fromList (xs.map inj) : Arith Rex).stdDev :=
    RR.ext' (by rw [Arith.fromList_stdDev _ (by rw [List.length_map]; exact hn),
      Arith.fromList_stdDev _ hn, ssd_shift xs k (by omega)])
  unfold Arith.prepOf Prep.shift
  rw [hm, hs, hc]
  rfl

end StatsCI.MeanLemmas
