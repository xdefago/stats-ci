/-
  StatsCI.Lemmas.MeanUnpaired — the Welch degrees of freedom as a real function, the bounds
  `min(p, q)·D ≤ (A + B)² ≤ (p + q)·D` on its denominator `D = A²/p + B²/q`, and
  `Unpaired::ci_mean` at exact arithmetic.
-/
import StatsCI.Lemmas.MeanExact

namespace StatsCI.MeanLemmas
open StatsCI NumOps Scalar

/-- the crate's effective degrees of freedom `(A+B)²/(A²/(na+1) + B²/(nb+1)) - 2` -/
noncomputable def welchDof (A B na nb : ℝ) : ℝ :=
  (A + B) ^ 2 / (A ^ 2 / (na + 1) + B ^ 2 / (nb + 1)) - 2

theorem effectiveDof_val (A B na nb : Rex) :
    (Unpaired.effectiveDof A B na nb).val = welchDof A.val B.val na.val nb.val := by
  simp only [Unpaired.effectiveDof, welchDof, RR.sub_val, RR.div_val, RR.mul_val, RR.add_val,
    RR.one_val, id_eq]
  ring

/-- Cauchy–Schwarz: `(A + B)² ≤ (p + q)·(A²/p + B²/q)` -/
theorem welch_den_ge (A B : ℝ) {p q : ℝ} (hp : 0 < p) (hq : 0 < q) :
    (A + B) ^ 2 ≤ (p + q) * (A ^ 2 / p + B ^ 2 / q) := by
  -- with `A = p·a`, `B = q·b` the difference of the two sides is `p·q·(a - b)²`
  obtain ⟨a, rfl⟩ : ∃ a, A = p * a := ⟨A / p, (mul_div_cancel₀ A hp.ne').symm⟩
  obtain ⟨b, rfl⟩ : ∃ b, B = q * b := ⟨B / q, (mul_div_cancel₀ B hq.ne').symm⟩
  have sq_div : ∀ r c : ℝ, r ≠ 0 → (r * c) ^ 2 / r = r * c ^ 2 := fun r c hr => by
    rw [mul_pow, sq r, mul_assoc, mul_div_cancel_left₀ _ hr]
  rw [sq_div p a hp.ne', sq_div q b hq.ne']
  have e : (p + q) * (p * a ^ 2 + q * b ^ 2) - (p * a + q * b) ^ 2 = p * q * (a - b) ^ 2 := by
    ring
  exact sub_nonneg.mp (e ▸ mul_nonneg (mul_nonneg hp.le hq.le) (sq_nonneg (a - b)))

theorem mul_div_le {x m p : ℝ} (hx : 0 ≤ x) (hp : 0 < p) (hm : m ≤ p) : m * (x / p) ≤ x := by
  rw [← mul_comm_div]
  exact mul_le_of_le_one_left hx ((div_le_one hp).mpr hm)

theorem welch_den_le {A B p q : ℝ} (hA : 0 ≤ A) (hB : 0 ≤ B) (hp : 0 < p) (hq : 0 < q) :
    min p q * (A ^ 2 / p + B ^ 2 / q) ≤ (A + B) ^ 2 := by
  rw [mul_add, add_sq, add_right_comm]
  exact (add_le_add (mul_div_le (sq_nonneg A) hp (min_le_left p q))
    (mul_div_le (sq_nonneg B) hq (min_le_right p q))).trans
    (le_add_of_nonneg_right (mul_nonneg (mul_nonneg zero_le_two hA) hB))

theorem welch_den_pos {A B p q : ℝ} (hAB : A + B ≠ 0) (hp : 0 < p) (hq : 0 < q) :
    0 < A ^ 2 / p + B ^ 2 / q :=
  (mul_pos_iff_of_pos_left (add_pos hp hq)).mp
    ((sq_pos_iff.mpr hAB).trans_le (welch_den_ge A B hp hq))

theorem welchDof_ge (A B na nb : ℝ) (hna : 2 ≤ na) (hnb : 2 ≤ nb) (hA : 0 ≤ A) (hB : 0 ≤ B)
    (hAB : 0 < A + B) : min na nb - 1 ≤ welchDof A B na nb := by
  have hp : 0 < na + 1 := add_pos_of_pos_of_nonneg (zero_lt_two.trans_le hna) zero_le_one
  have hq : 0 < nb + 1 := add_pos_of_pos_of_nonneg (zero_lt_two.trans_le hnb) zero_le_one
  have h := (le_div_iff₀ (welch_den_pos hAB.ne' hp hq)).mpr (welch_den_le hA hB hp hq)
  rw [min_add_add_right] at h
  calc min na nb - 1 = min na nb + 1 - 2 := by ring
    _ ≤ _ := sub_le_sub_right h 2

theorem welchDof_le (A B na nb : ℝ) (hna : 0 ≤ na) (hnb : 0 ≤ nb) :
    welchDof A B na nb ≤ na + nb := by
  have hp : 0 < na + 1 := add_pos_of_nonneg_of_pos hna one_pos
  have hq : 0 < nb + 1 := add_pos_of_nonneg_of_pos hnb one_pos
  have e : na + nb = na + 1 + (nb + 1) - 2 := by ring
  rw [e]
  refine sub_le_sub_right ?_ 2
  rcases eq_or_ne (A + B) 0 with h | h
  · rw [h, zero_pow two_ne_zero, zero_div]
    exact (add_pos hp hq).le
  · exact (div_le_iff₀ (welch_den_pos h hp hq)).mpr (welch_den_ge A B hp hq)

theorem welchDof_zero (na nb : ℝ) : welchDof 0 0 na nb = -2 := by
  simp [welchDof]

/-- the degrees of freedom `Unpaired::ci_mean` hands on: the documented expression, not below
    `min(na, nb) - 1` (the lower bound the crate applies to the computed value) -/
noncomputable def clampedDof (A B na nb : ℝ) : ℝ := max (welchDof A B na nb) (min na nb - 1)

theorem clampedDof_eq (A B na nb : ℝ) (hna : 2 ≤ na) (hnb : 2 ≤ nb) (hA : 0 ≤ A) (hB : 0 ≤ B)
    (hAB : 0 < A + B) : clampedDof A B na nb = welchDof A B na nb :=
  max_eq_left (welchDof_ge A B na nb hna hnb hA hB hAB)

theorem one_le_min_sub_one {p q : ℝ} (hp : 2 ≤ p) (hq : 2 ≤ q) : 1 ≤ min p q - 1 :=
  le_sub_iff_add_le.mpr (one_add_one_eq_two.trans_le (le_min hp hq))

theorem clampedDof_ge (A B na nb : ℝ) (hna : 2 ≤ na) (hnb : 2 ≤ nb) :
    min na nb - 1 ≤ clampedDof A B na nb ∧ 1 ≤ clampedDof A B na nb :=
  ⟨le_max_right _ _, (one_le_min_sub_one hna hnb).trans (le_max_right _ _)⟩

/-- two constant samples: the expression is `0/0 - 2 = -2` on the reals, the bound takes over -/
theorem clampedDof_zero (na nb : ℝ) (hna : 2 ≤ na) (hnb : 2 ≤ nb) :
    clampedDof 0 0 na nb = min na nb - 1 := by
  rw [clampedDof, welchDof_zero]
  exact max_eq_right (le_trans (by norm_num) (one_le_min_sub_one hna hnb))

theorem Unpaired.dofW_val (u : Unpaired Rex) :
    (Unpaired.dofW u : Rex).val =
      clampedDof (Unpaired.s2n u.a).val (Unpaired.s2n u.b).val u.a.count u.b.count := by
  unfold Unpaired.dofW
  rw [Unpaired.clampDof_val, effectiveDof_val]
  rfl

theorem Unpaired.dofW_pos (u : Unpaired Rex) (ha : 2 ≤ u.a.count) (hb : 2 ≤ u.b.count) :
    0 < (Unpaired.dofW u : Rex).val :=
  Unpaired.dofW_val u ▸ one_pos.trans_le
    (clampedDof_ge _ _ _ _ (Nat.ofNat_le_cast.mpr ha) (Nat.ofNat_le_cast.mpr hb)).2

noncomputable def welchA (xs : List ℝ) : ℝ := svar xs / xs.length

noncomputable def welchNu (as bs : List ℝ) : ℝ :=
  welchDof (welchA as) (welchA bs) as.length bs.length

/-- half-width `c · √(sa²/na + sb²/nb)` with `c` the answer to the request at `ν` -/
noncomputable def welchHalf (crit : Crit Rex) (conf : Confidence Rex) (as bs : List ℝ) : ℝ :=
  (crit (critReq conf ⟨welchNu as bs⟩)).val * Real.sqrt (welchA as + welchA bs)

theorem welchA_nonneg (xs : List ℝ) (hn : 1 ≤ xs.length) : 0 ≤ welchA xs :=
  div_nonneg (svar_nonneg xs hn) (Nat.cast_nonneg _)

theorem welchA_pos (xs : List ℝ) (hn : 1 ≤ xs.length) (h : 0 < svar xs) : 0 < welchA xs :=
  div_pos h (by exact_mod_cast hn)

/-- when not both variance terms vanish the lower bound `min(na, nb) − 1` on `ν` is inactive -/
theorem clampedDof_lists (as bs : List ℝ) (hna : 2 ≤ as.length) (hnb : 2 ≤ bs.length)
    (hAB : 0 < welchA as + welchA bs) :
    clampedDof (welchA as) (welchA bs) as.length bs.length = welchNu as bs :=
  clampedDof_eq _ _ _ _ (Nat.ofNat_le_cast.mpr hna) (Nat.ofNat_le_cast.mpr hnb)
    (welchA_nonneg as (by omega)) (welchA_nonneg bs (by omega)) hAB

theorem fromList_s2n (xs : List ℝ) (hn : 2 ≤ xs.length) :
    (Unpaired.s2n (Arith.fromList (xs.map inj) : Arith Rex)).val = welchA xs := by
  show _ * _ / _ = _
  rw [Arith.fromList_stdDev xs hn, ssd_mul_self xs (by omega), MeanRound.fromList_count']
  rfl

theorem Unpaired.prepOf_fromLists (as bs : List ℝ) (hna : 2 ≤ as.length) (hnb : 2 ≤ bs.length) :
    (Unpaired.prepOf (Unpaired.fromLists (as.map inj : List Rex) (bs.map inj)) : Arith.Prep Rex) =
      ⟨⟨smean as - smean bs⟩, ⟨Real.sqrt (welchA as + welchA bs)⟩,
        ⟨clampedDof (welchA as) (welchA bs) as.length bs.length⟩⟩ := by
  unfold Unpaired.prepOf
  congr 1 <;> apply RR.ext'
  · show _ - _ = _
    rw [Unpaired.fromLists_a, Unpaired.fromLists_b, Arith.fromList_mean, Arith.fromList_mean]
  · show Real.sqrt (_ + _) = _
    rw [Unpaired.fromLists_a, Unpaired.fromLists_b, fromList_s2n as hna, fromList_s2n bs hnb]
  · rw [Unpaired.dofW_val, Unpaired.fromLists_a, Unpaired.fromLists_b, fromList_s2n as hna,
      fromList_s2n bs hnb, MeanRound.fromList_count', MeanRound.fromList_count']

theorem Unpaired.ci_rex_clamped (crit : Crit Rex) (conf : Confidence Rex) (as bs : List ℝ)
    (hna : 2 ≤ as.length) (hnb : 2 ≤ bs.length) (hp : probOk conf.quantile = true) :
    Unpaired.ci crit conf (as.map inj) (bs.map inj) =
      intervalOfKind conf
        (⟨(smean as - smean bs) -
          (crit (critReq conf ⟨clampedDof (welchA as) (welchA bs) as.length bs.length⟩)).val *
            Real.sqrt (welchA as + welchA bs)⟩ : Rex)
        ⟨(smean as - smean bs) +
          (crit (critReq conf ⟨clampedDof (welchA as) (welchA bs) as.length bs.length⟩)).val *
            Real.sqrt (welchA as + welchA bs)⟩ := by
  have hd : 0 < clampedDof (welchA as) (welchA bs) as.length bs.length :=
    lt_of_lt_of_le one_pos
      (clampedDof_ge _ _ _ _ (Nat.ofNat_le_cast.mpr hna) (Nat.ofNat_le_cast.mpr hnb)).2
  unfold Unpaired.ci
  rw [Unpaired.ciMean_eq_finish, Unpaired.ciPrep_rr, Unpaired.fromLists_a, Unpaired.fromLists_b,
    MeanRound.fromList_count', MeanRound.fromList_count',
    if_neg (Nat.not_lt.mpr hna), if_neg (Nat.not_lt.mpr hnb), Unpaired.prepOf_fromLists as bs hna hnb,
    finish_rr crit conf _ hd hp]
  rfl

end StatsCI.MeanLemmas
