/-
  StatsCI.Lemmas.Rounding — the standard model of rounding, `|fl x − x| ≤ u·|x|`, over plain reals
  (nothing of the model is used):

  * its immediate consequences, and absolute errors through the exact operations;
  * one rounded operation on an approximation (`fl_close`), and the same counted in units of a
    magnitude bound, `k` units before and `k + 2` after (`fl_step`): the form for chains with sums
    and differences, where the errors add and cancellation forbids relative bounds; a factor
    `(1 + u)·(1 + k·u)` left at the end of such a chain is bounded by `coef_step`;
  * relative error on the logarithmic scale (`Mult e x' x`: `x' = x·r` with `e⁻ᵉ ≤ r ≤ eᵉ`), where
    the exponents of a product, a quotient and a square root are the sum, the sum and the half of
    those of the arguments, exactly: no second-order terms and, for products and quotients, no side
    conditions, either sign of `x`. One rounding costs the exponent `-log (1 - u)`; the conversion
    to `|x' − x| ≤ c·u·|x|` is made once, at the end of a chain. This is the form for every stretch
    of products, quotients and square roots (sums of non-negative terms included), however long;
  * `flNat`, a rounding function that meets the standard model and is not the identity (the
    witness of the non-vacuity examples).
-/
import Mathlib.Analysis.Real.Sqrt
import Mathlib.Analysis.SpecialFunctions.Log.Basic
import Mathlib.Analysis.SpecialFunctions.Exp
import Mathlib.Tactic.Ring
import Mathlib.Tactic.NormNum

namespace StatsCI.Rounding

section linear
variable {fl : ℝ → ℝ} {u : ℝ}

theorem fl_zero (hfl : ∀ x, |fl x - x| ≤ u * |x|) : fl 0 = 0 := by
  simpa using hfl 0

theorem abs_fl_le (hfl : ∀ x, |fl x - x| ≤ u * |x|) (x : ℝ) : |fl x| ≤ (1 + u) * |x| := by
  have := abs_sub_abs_le_abs_sub (fl x) x
  linear_combination hfl x + this

theorem le_fl (hfl : ∀ x, |fl x - x| ≤ u * |x|) {x : ℝ} (hx : 0 ≤ x) : (1 - u) * x ≤ fl x := by
  have h := (abs_le.mp (hfl x)).1
  rw [abs_of_nonneg hx] at h
  linear_combination h

theorem fl_le (hfl : ∀ x, |fl x - x| ≤ u * |x|) {x : ℝ} (hx : 0 ≤ x) : fl x ≤ (1 + u) * x := by
  have h := (abs_le.mp (hfl x)).2
  rw [abs_of_nonneg hx] at h
  linear_combination h

theorem fl_nonneg (hfl : ∀ x, |fl x - x| ≤ u * |x|) (hu1 : u ≤ 1) {x : ℝ} (hx : 0 ≤ x) :
    0 ≤ fl x :=
  le_trans (mul_nonneg (sub_nonneg.mpr hu1) hx) (le_fl hfl hx)

theorem fl_nonneg_of_monotone (hfl : ∀ x, |fl x - x| ≤ u * |x|) (hmono : Monotone fl) {x : ℝ}
    (hx : 0 ≤ x) : 0 ≤ fl x :=
  fl_zero hfl ▸ hmono hx

theorem fl_pos (hfl : ∀ x, |fl x - x| ≤ u * |x|) (hu1 : u < 1) {x : ℝ} (hx : 0 < x) :
    0 < fl x :=
  lt_of_lt_of_le (mul_pos (sub_pos.mpr hu1) hx) (le_fl hfl hx.le)

theorem fl_neg (hfl : ∀ x, |fl x - x| ≤ u * |x|) (hu1 : u < 1) {x : ℝ} (hx : x < 0) :
    fl x < 0 := by
  have h := (abs_le.mp (hfl x)).2
  rw [abs_of_neg hx] at h
  have := mul_lt_mul_of_pos_right hu1 (neg_pos.mpr hx)
  linear_combination h + this

section exact
variable {a b c d E F : ℝ}

theorem abs_le_of_close (h : |a - b| ≤ E) : |a| ≤ |b| + E := by
  linear_combination abs_sub_abs_le_abs_sub a b + h

theorem add_close (h1 : |a - b| ≤ E) (h2 : |c - d| ≤ F) : |a + c - (b + d)| ≤ E + F := by
  rw [add_sub_add_comm]
  exact (abs_add_le _ _).trans (add_le_add h1 h2)

theorem sub_close (h1 : |a - b| ≤ E) (h2 : |c - d| ≤ F) : |a - c - (b - d)| ≤ E + F := by
  rw [sub_sub_sub_comm]
  exact (abs_sub _ _).trans (add_le_add h1 h2)

theorem trans_close (h1 : |a - b| ≤ E) (h2 : |b - c| ≤ F) : |a - c| ≤ E + F :=
  (abs_sub_le a b c).trans (add_le_add h1 h2)

theorem mul_left_close (c : ℝ) (h : |a - b| ≤ E) : |c * a - c * b| ≤ |c| * E := by
  rw [← mul_sub, abs_mul]
  exact mul_le_mul_of_nonneg_left h (abs_nonneg c)

theorem div_right_close {R : ℝ} (hR : 0 < R) (h : |a - b| ≤ E) : |a / R - b / R| ≤ E / R := by
  rw [← sub_div, abs_div, abs_of_pos hR]
  exact div_le_div_of_nonneg_right h hR.le

theorem mul_close (h1 : |a - b| ≤ E) (h2 : |c - d| ≤ F) :
    |a * c - b * d| ≤ E * (|d| + F) + |b| * F := by
  have e : a * c - b * d = (a - b) * c + b * (c - d) := by ring
  have hc := abs_le_of_close h2
  rw [e]
  refine (abs_add_le _ _).trans (add_le_add ?_ ?_)
  · rw [abs_mul]
    exact mul_le_mul h1 hc (abs_nonneg _) ((abs_nonneg _).trans h1)
  · rw [abs_mul]
    exact mul_le_mul_of_nonneg_left h2 (abs_nonneg b)

theorem abs_sq_sub_sq_le (h : |a - b| ≤ E) : |a ^ 2 - b ^ 2| ≤ E * (2 * |b| + E) := by
  have := mul_close h h
  rw [← pow_two, ← pow_two] at this
  linear_combination this

end exact

/-- clamping from above is 1-Lipschitz (from below: `abs_max_sub_max_le_abs`) -/
theorem abs_min_sub_min_le_abs (a b c : ℝ) : |min a c - min b c| ≤ |a - b| := by
  simpa only [sub_self, abs_zero, max_eq_left (abs_nonneg (a - b))] using
    abs_min_sub_min_le_max a c b c

theorem abs_sqrt_sub_sqrt_le {a b : ℝ} (ha : 0 ≤ a) (hb : 0 ≤ b) :
    |Real.sqrt a - Real.sqrt b| ≤ Real.sqrt |a - b| := by
  have key : ∀ {p q : ℝ}, 0 ≤ q → q ≤ p → Real.sqrt p - Real.sqrt q ≤ Real.sqrt (p - q) := by
    intro p q hq hpq
    have h1 : Real.sqrt p ≤ Real.sqrt q + Real.sqrt (p - q) := by
      rw [Real.sqrt_le_left (add_nonneg (Real.sqrt_nonneg _) (Real.sqrt_nonneg _))]
      have s1 := Real.sq_sqrt hq
      have s2 := Real.sq_sqrt (sub_nonneg.mpr hpq)
      have s3 := mul_nonneg (Real.sqrt_nonneg q) (Real.sqrt_nonneg (p - q))
      linear_combination 2 * s3 - s1 - s2
    exact sub_le_iff_le_add'.mpr h1
  rcases le_total b a with h | h
  · rw [abs_of_nonneg (sub_nonneg.mpr (Real.sqrt_le_sqrt h)), abs_of_nonneg (sub_nonneg.mpr h)]
    exact key hb h
  · rw [abs_sub_comm, abs_of_nonneg (sub_nonneg.mpr (Real.sqrt_le_sqrt h)), abs_sub_comm,
      abs_of_nonneg (sub_nonneg.mpr h)]
    exact key ha h

theorem abs_sqrt_sub_mul_le {a b : ℝ} (hb : 0 ≤ b) :
    |Real.sqrt a - Real.sqrt b| * Real.sqrt b ≤ |a - b| := by
  have sb := Real.sqrt_nonneg b
  have sbb : Real.sqrt b * Real.sqrt b = b := Real.mul_self_sqrt hb
  rcases le_or_gt 0 a with ha | ha
  · have sa := Real.sqrt_nonneg a
    have e : a - b = (Real.sqrt a - Real.sqrt b) * (Real.sqrt a + Real.sqrt b) := by
      have e' : (Real.sqrt a - Real.sqrt b) * (Real.sqrt a + Real.sqrt b) =
          Real.sqrt a * Real.sqrt a - Real.sqrt b * Real.sqrt b := by ring
      rw [e', Real.mul_self_sqrt ha, sbb]
    rw [e, abs_mul, abs_of_nonneg (add_nonneg sa sb)]
    exact mul_le_mul_of_nonneg_left (le_add_of_nonneg_left sa) (abs_nonneg _)
  · rw [Real.sqrt_eq_zero_of_nonpos ha.le, zero_sub, abs_neg, abs_of_nonneg sb, sbb,
      abs_of_neg (sub_neg.mpr (ha.trans_le hb))]
    linear_combination ha

theorem fl_close (hfl : ∀ x, |fl x - x| ≤ u * |x|) (hu : 0 ≤ u) {a b E B : ℝ}
    (h : |a - b| ≤ E) (hb : |b| ≤ B) : |fl a - b| ≤ E + u * (B + E) := by
  have h3 := mul_le_mul_of_nonneg_left ((abs_le_of_close h).trans (add_le_add hb le_rfl)) hu
  linear_combination trans_close (hfl a) h + h3

theorem coef_step (hu : 0 ≤ u) (hu' : u ≤ 1 / 2048) {A k k' : ℝ} (hk : 0 ≤ k)
    (hA : A ≤ 1 + k * u) (hk' : k + 1 + k / 2048 ≤ k') : (1 + u) * A ≤ 1 + k' * u := by
  have h1 := mul_le_mul_of_nonneg_left hA (add_nonneg zero_le_one hu)
  have h2 := mul_le_mul_of_nonneg_left hu' (mul_nonneg hk hu)
  have h3 := mul_le_mul_of_nonneg_right hk' hu
  linear_combination h1 + h2 + h3

/-- the error counted in units `u·Y` of a magnitude bound `Y` of the target: one unit for the
    rounding of the target, one for that of the inherited error (`k·u ≤ 1`) -/
theorem fl_step (hfl : ∀ x, |fl x - x| ≤ u * |x|) (hu : 0 ≤ u) (hu' : u ≤ 1 / 2048)
    {a b Y k k' : ℝ} (hk : k ≤ 2048) (hk' : k + 2 ≤ k') (hb : |b| ≤ Y)
    (hab : |a - b| ≤ k * u * Y) : |fl a - b| ≤ k' * u * Y := by
  have huY := mul_nonneg hu (le_trans (abs_nonneg _) hb)
  have h1 := mul_le_mul_of_nonneg_right (mul_le_mul hk hu' hu (by norm_num : (0 : ℝ) ≤ 2048)) huY
  have h2 := mul_le_mul_of_nonneg_right hk' huY
  linear_combination fl_close hfl hu hab hb + h1 + h2

theorem fl_step_div (hfl : ∀ x, |fl x - x| ≤ u * |x|) (hu : 0 ≤ u) (hu' : u ≤ 1 / 2048)
    {a b Y R k k' : ℝ} (hR : 0 < R) (hk : k ≤ 2048) (hk' : k + 2 ≤ k') (hb : |b| ≤ Y)
    (hab : |a - b| ≤ k * u * Y) : |fl (a / R) - b / R| ≤ k' * u * (Y / R) := by
  have h := div_right_close hR hab
  rw [mul_div_assoc] at h
  refine fl_step hfl hu hu' hk hk' ?_ h
  rw [abs_div, abs_of_pos hR]
  exact div_le_div_of_nonneg_right hb hR.le

/-- a rounded sum or difference of `mh ≈ m` (off by `κ·X`, `|m| ≤ X`) and `hh`, which has the
    relative error `ρ` to a quantity `h'` that misses `H ≥ 0` by `P`; `α`, `β`, `γ` bound the
    factors after the rounding -/
theorem pm_step (hfl : ∀ x, |fl x - x| ≤ u * |x|) (hu : 0 ≤ u) {κ ρ α β γ mh m hh h' H X P : ℝ}
    (hX : |m| ≤ X) (hH : 0 ≤ H) (hm : |mh - m| ≤ κ * X) (hρ : 0 ≤ ρ)
    (hrel : |hh - h'| ≤ ρ * |h'|) (hP : |h' - H| ≤ P) (hα : (1 + u) * (1 + κ) ≤ 1 + α)
    (hβ : (1 + u) * (1 + ρ) ≤ 1 + β) (hγ : (1 + u) * (1 + ρ) ≤ γ) :
    |fl (mh - hh) - (m - H)| ≤ α * X + γ * P + β * H ∧
    |fl (mh + hh) - (m + H)| ≤ α * X + γ * P + β * H := by
  have hH' : |H| = H := abs_of_nonneg hH
  have h1 : |hh - H| ≤ (1 + ρ) * P + ρ * H := by
    have := mul_le_mul_of_nonneg_left (abs_le_of_close hP) hρ
    rw [hH'] at this
    linear_combination trans_close hrel hP + this
  have m1 := mul_le_mul_of_nonneg_right hα (le_trans (abs_nonneg _) hX)
  have m2 := mul_le_mul_of_nonneg_right hγ (le_trans (abs_nonneg _) hP)
  have m3 := mul_le_mul_of_nonneg_right hβ hH
  have last : ∀ {a b : ℝ}, |b| ≤ X + H → |a - b| ≤ κ * X + ((1 + ρ) * P + ρ * H) →
      |fl a - b| ≤ α * X + γ * P + β * H := fun hb hab => by
    linear_combination fl_close hfl hu hab hb + m1 + m2 + m3
  exact ⟨last ((abs_sub m H).trans (add_le_add hX hH'.le)) (sub_close hm h1),
    last ((abs_add_le m H).trans (add_le_add hX hH'.le)) (add_close hm h1)⟩

end linear

section logscale
open Real

def Mult (e x' x : ℝ) : Prop := ∃ r, exp (-e) ≤ r ∧ r ≤ exp e ∧ x' = x * r

namespace Mult
variable {a b e v u x x' y y' : ℝ}

theorem refl (x : ℝ) : Mult 0 x x := ⟨1, by simp, by simp, by simp⟩

theorem mono (h : Mult a x' x) (hae : a ≤ e) : Mult e x' x := by
  obtain ⟨r, h1, h2, rfl⟩ := h
  exact ⟨r, (exp_le_exp.mpr (neg_le_neg hae)).trans h1, h2.trans (exp_le_exp.mpr hae), rfl⟩

theorem mul (hx : Mult a x' x) (hy : Mult b y' y) : Mult (a + b) (x' * y') (x * y) := by
  obtain ⟨r, r1, r2, rfl⟩ := hx
  obtain ⟨s, s1, s2, rfl⟩ := hy
  refine ⟨r * s, ?_, ?_, by ring⟩
  · rw [neg_add, exp_add]; exact mul_le_mul r1 s1 (exp_pos _).le ((exp_pos _).le.trans r1)
  · rw [exp_add]; exact mul_le_mul r2 s2 ((exp_pos _).le.trans s1) (exp_pos _).le

theorem trans {z : ℝ} (h1 : Mult a x y) (h2 : Mult b y z) : Mult (a + b) x z := by
  obtain ⟨r, r1, r2, rfl⟩ := h1
  have := h2.mul (⟨r, r1, r2, (one_mul r).symm⟩ : Mult a r 1)
  rwa [mul_one, add_comm] at this

theorem inv (hx : Mult a x' x) : Mult a x'⁻¹ x⁻¹ := by
  obtain ⟨r, r1, r2, rfl⟩ := hx
  have hr : 0 < r := (exp_pos _).trans_le r1
  refine ⟨r⁻¹, ?_, ?_, mul_inv x r⟩
  · rw [exp_neg]; exact inv_anti₀ hr r2
  · rw [← inv_inv (exp a), ← exp_neg]; exact inv_anti₀ (exp_pos _) r1

theorem div (hx : Mult a x' x) (hy : Mult b y' y) : Mult (a + b) (x' / y') (x / y) := by
  rw [div_eq_mul_inv, div_eq_mul_inv]; exact hx.mul hy.inv

theorem sqrt (hx : Mult a x' x) (x0 : 0 ≤ x) : Mult (a / 2) (√x') (√x) := by
  obtain ⟨r, r1, r2, rfl⟩ := hx
  refine ⟨√r, ?_, ?_, Real.sqrt_mul x0 r⟩
  · rw [← neg_div, exp_half]; exact Real.sqrt_le_sqrt r1
  · rw [exp_half]; exact Real.sqrt_le_sqrt r2

theorem add (hx : Mult e x' x) (hy : Mult e y' y) (x0 : 0 ≤ x) (y0 : 0 ≤ y) :
    Mult e (x' + y') (x + y) := by
  obtain ⟨r, r1, r2, rfl⟩ := hx
  obtain ⟨s, s1, s2, rfl⟩ := hy
  rcases (add_nonneg x0 y0).eq_or_lt with h | h
  · obtain ⟨hx, hy⟩ := (add_eq_zero_iff_of_nonneg x0 y0).mp h.symm
    exact ⟨r, r1, r2, by simp [hx, hy]⟩
  -- the ratio of the sums is a convex combination of the two ratios
  · refine ⟨(x * r + y * s) / (x + y), ?_, ?_, (mul_div_cancel₀ _ h.ne').symm⟩
    · rw [le_div_iff₀ h]
      linear_combination mul_le_mul_of_nonneg_left r1 x0 + mul_le_mul_of_nonneg_left s1 y0
    · rw [div_le_iff₀ h]
      linear_combination mul_le_mul_of_nonneg_left r2 x0 + mul_le_mul_of_nonneg_left s2 y0

/-- a relative error `u < 1` on this scale: `exp (log (1 - u)) = 1 - u` below, and
    `1 + u ≤ 1 / (1 - u)` above -/
theorem of_abs_sub_le (hu0 : 0 ≤ u) (hu1 : u < 1) (h : |x' - x| ≤ u * |x|) :
    Mult (-log (1 - u)) x' x := by
  have h1 : 0 < 1 - u := sub_pos.mpr hu1
  rw [Mult, neg_neg, exp_log h1, exp_neg, exp_log h1]
  have hinv : 1 + u ≤ (1 - u)⁻¹ := by
    rw [← one_div, le_div_iff₀ h1]
    linear_combination mul_nonneg hu0 hu0
  rcases eq_or_ne x 0 with rfl | hx
  · rw [abs_zero, mul_zero, sub_zero, abs_nonpos_iff] at h
    exact ⟨1, sub_le_self 1 hu0, by linear_combination hu0 + hinv, by rw [h, zero_mul]⟩
  · have h : |(x' - x) / x| ≤ u := by
      rw [abs_div]; exact (div_le_iff₀ (abs_pos.mpr hx)).mpr h
    obtain ⟨hl, hr⟩ := abs_le.mp h
    exact ⟨1 + (x' - x) / x, by linear_combination hl, by linear_combination hr + hinv,
      by rw [mul_add, mul_one, mul_div_cancel₀ _ hx, add_sub_cancel]⟩

theorem of_fl {fl : ℝ → ℝ} (hfl : ∀ x, |fl x - x| ≤ u * |x|) (hu0 : 0 ≤ u) (hu1 : u < 1) (x : ℝ) :
    Mult (-log (1 - u)) (fl x) x :=
  of_abs_sub_le hu0 hu1 (hfl x)

theorem fl {fl : ℝ → ℝ} (hfl : ∀ x, Mult v (fl x) x) (h : Mult a x' x) : Mult (a + v) (fl x') x :=
  add_comm a v ▸ (hfl x').trans h

/-- back to the linear scale: `exp e - 1 ≤ e / (1 - e)` and `1 - exp (-e) ≤ e` -/
theorem abs_sub_le (h : Mult e x' x) (he0 : 0 ≤ e) (he : e < 1) : |x' - x| ≤ e / (1 - e) * |x| := by
  obtain ⟨r, r1, r2, rfl⟩ := h
  have h1 : 0 < 1 - e := sub_pos.mpr he
  have hup : exp e ≤ 1 / (1 - e) := Real.exp_bound_div_one_sub_of_interval he0 he
  have hlo := add_one_le_exp (-e)
  have e1 : 1 / (1 - e) - 1 = e / (1 - e) := by rw [div_sub_one h1.ne', sub_sub_cancel]
  have e2 : e ≤ e / (1 - e) := le_div_self he0 h1 (sub_le_self 1 he0)
  have hr : |r - 1| ≤ e / (1 - e) :=
    abs_le.mpr ⟨by linear_combination r1 + hlo + e2, by linear_combination r2 + hup + e1⟩
  have e3 : x * r - x = (r - 1) * x := by ring
  rw [e3, abs_mul]
  exact mul_le_mul_of_nonneg_right hr (abs_nonneg x)

theorem abs_sub_le_of_le {δ : ℝ} (h : Mult e x' x) (he0 : 0 ≤ e) (he : e ≤ δ) (hδ : δ < 1) :
    |x' - x| ≤ e / (1 - δ) * |x| :=
  (h.abs_sub_le he0 (he.trans_lt hδ)).trans (mul_le_mul_of_nonneg_right
    (div_le_div_of_nonneg_left he0 (sub_pos.mpr hδ) (sub_le_sub_left he 1)) (abs_nonneg x))

end Mult

theorem neg_log_one_sub_le {v : ℝ} (hv : v < 1) : -log (1 - v) ≤ v / (1 - v) := by
  have h1 : 0 < 1 - v := sub_pos.mpr hv
  rw [← Real.log_inv]
  refine (Real.log_le_sub_one_of_pos (inv_pos.mpr h1)).trans (le_of_eq ?_)
  rw [inv_eq_one_div, div_sub_one h1.ne', sub_sub_cancel]

/-- the exponent of one rounding is `u` up to second order: `-log (1 - u) ≤ u / (1 - u)`, and
    `1 / (1 - u) ≤ 1.001` for `u ≤ 2⁻¹⁰` -/
theorem unit_le {u : ℝ} (hu0 : 0 ≤ u) (hu : u ≤ 1 / 1024) :
    0 ≤ -log (1 - u) ∧ -log (1 - u) ≤ 1.001 * u := by
  have hu1 : u < 1 := hu.trans_lt (by norm_num)
  have h1 : 0 < 1 - u := sub_pos.mpr hu1
  refine ⟨neg_nonneg.mpr (Real.log_nonpos h1.le (sub_le_self 1 hu0)),
    (neg_log_one_sub_le hu1).trans ?_⟩
  rw [div_le_iff₀ h1]
  linear_combination 1.001 * mul_le_mul_of_nonneg_right hu hu0 + (0.001 - 1.001 / 1024) * hu0

/-- the end of a chain of at most eight roundings, `u ≤ 2⁻¹⁰`: the exponent `c · (-log (1 - u))` is
    at most `1.001 c u ≤ 0.008`, and `e / (1 - e) ≤ e / 0.992` -/
theorem Mult.abs_sub_le_unit {c u x x' : ℝ} (h : Mult (c * -log (1 - u)) x' x) (hc0 : 0 ≤ c)
    (hc : c ≤ 8) (hu0 : 0 ≤ u) (hu : u ≤ 1 / 1024) : |x' - x| ≤ 1.01 * c * u * |x| := by
  obtain ⟨hv0, hv⟩ := unit_le hu0 hu
  generalize -log (1 - u) = v at h hv0 hv
  have hcv := mul_le_mul_of_nonneg_left hv hc0
  have hcu := mul_le_mul hc hu hu0 (by norm_num : (0 : ℝ) ≤ 8)
  have hcu0 := mul_nonneg hc0 hu0
  refine (h.abs_sub_le_of_le (mul_nonneg hc0 hv0) (by linear_combination hcv + 1.001 * hcu : c * v ≤ 0.008)
    (by norm_num)).trans (mul_le_mul_of_nonneg_right ?_ (abs_nonneg x))
  rw [div_le_iff₀ (by norm_num)]
  linear_combination hcv + 0.00092 * hcu0

end logscale

open Classical in
/-- exact on the natural numbers, `x·(1 + ε)` elsewhere: meets the standard model with `u = ε` and
    the exactness hypotheses on counts, and moves `1/2` -/
noncomputable def flNat (ε x : ℝ) : ℝ := if ∃ m : ℕ, (m : ℝ) = x then x else x * (1 + ε)

theorem flNat_err {ε : ℝ} (hε : 0 ≤ ε) (x : ℝ) : |flNat ε x - x| ≤ ε * |x| := by
  unfold flNat
  split_ifs
  · rw [sub_self, abs_zero]
    exact mul_nonneg hε (abs_nonneg x)
  · rw [mul_one_add, add_sub_cancel_left, abs_mul, abs_of_nonneg hε, mul_comm]

theorem flNat_nat (ε : ℝ) (m : ℕ) : flNat ε m = m := if_pos ⟨m, rfl⟩

theorem flNat_half {ε : ℝ} (hε : ε ≠ 0) : flNat ε (1 / 2) ≠ 1 / 2 := by
  have hno : ¬ ∃ m : ℕ, (m : ℝ) = 1 / 2 := by
    rintro ⟨m, hm⟩
    have h2 : ((2 * m : ℕ) : ℝ) = ((1 : ℕ) : ℝ) := by push_cast; linear_combination 2 * hm
    have := Nat.cast_injective h2
    omega
  rw [flNat, if_neg hno]
  intro h
  exact hε (by linear_combination 2 * h)

end StatsCI.Rounding
