/-
  StatsCI.Lemmas.Coherence — the lemmas behind C10 (coherence of the interval producers across
  confidence kinds and levels).

  What holds on every carrier is in `Lemmas/KindForm.lean`. Here, at exact arithmetic `Rex`: success of
  each producer is one `iff` (`finish_ok_iff_rex` and `ciZNormal_ok_iff_rex` below,
  `WilsonMono.ciWilson_ok_iff_rex`, `Quantile.ciIndices_ok_iff`) whose right side is the shape of
  the kind (`shapeOf`, `propShape`) on bounds that depend on the confidence only through the
  critical value; containment, nesting and transfer of success are then facts about shapes and
  about monotonicity of the bounds in the critical value. What is assumed of the external quantile
  routine: `CritMono`, `CritHalf`.
-/
import StatsCI.Model.Instances
import StatsCI.Lemmas.MeanLog
import StatsCI.Lemmas.MeanUnpaired
import StatsCI.Lemmas.Wilson
import StatsCI.Lemmas.WilsonMono
import StatsCI.Lemmas.Quantile
import Mathlib.Analysis.SpecialFunctions.Exp

namespace StatsCI.Coherence
open StatsCI NumOps Scalar MeanLemmas

/-! ## exact arithmetic: levels, quantiles and the hypotheses on the external quantile routine -/

open QSpec

/-- the two-sided confidence at level `2L − 1` asks for the probability `(1 + (2L − 1))/2 = L` -/
theorem quantile_two (L : ℝ) : (Confidence.twoSided (⟨2 * L - 1⟩ : Rex)).quantile = ⟨L⟩ :=
  RR.ext' ((Confidence.quantile_twoSided_val _).trans (by ring))

theorem zOf_two (crit : Crit Rex) (L : ℝ) :
    zOf crit (.twoSided ⟨2 * L - 1⟩) = zOf crit (.upper ⟨L⟩) :=
  congrArg (fun q => (crit (.z q)).val) (quantile_two L)

/-- the external quantile routine is monotone in the probability (Student `t` at every `dof`,
    and normal) -/
def CritMono (crit : Crit Rex) : Prop :=
  (∀ dof p q : Rex, p.val ≤ q.val → (crit (.t dof p)).val ≤ (crit (.t dof q)).val) ∧
  (∀ p q : Rex, p.val ≤ q.val → (crit (.z p)).val ≤ (crit (.z q)).val)

/-- the external quantile routine returns `0` at probability `1/2` (symmetric distributions) -/
def CritHalf (crit : Crit Rex) : Prop :=
  (∀ dof : Rex, (crit (.t dof ⟨1 / 2⟩)).val = 0) ∧ (crit (.z ⟨1 / 2⟩)).val = 0

/-- a concrete oracle satisfying both (for non-vacuity): `p ↦ p − 1/2` -/
noncomputable def linCrit : Crit Rex := fun r =>
  match r with
  | .t _ p => ⟨p.val - 1 / 2⟩
  | .z p => ⟨p.val - 1 / 2⟩

theorem linCrit_mono : CritMono linCrit :=
  ⟨fun _ _ _ h => sub_le_sub_right h _, fun _ _ h => sub_le_sub_right h _⟩

theorem linCrit_half : CritHalf linCrit := ⟨fun _ => sub_self _, sub_self _⟩

/-- the critical value the common tail asks for -/
noncomputable abbrev cOf (crit : Crit Rex) (conf : Confidence Rex) (dof : Rex) : ℝ :=
  (crit (critReq conf dof)).val

section crit
variable {crit : Crit Rex}

theorem cOf_mono (hm : CritMono crit) {c₁ c₂ : Confidence Rex} (hk : c₁.kind = c₂.kind)
    (hl : c₁.level.val ≤ c₂.level.val) (dof : Rex) : cOf crit c₁ dof ≤ cOf crit c₂ dof := by
  have hq := Confidence.quantile_le_of_level c₁ c₂ hk hl
  unfold cOf critReq
  split
  · exact hm.1 _ _ _ hq
  · exact hm.2 _ _ hq

theorem zOf_mono (hm : CritMono crit) {c₁ c₂ : Confidence Rex} (hk : c₁.kind = c₂.kind)
    (hl : c₁.level.val ≤ c₂.level.val) : zOf crit c₁ ≤ zOf crit c₂ :=
  hm.2 _ _ (Confidence.quantile_le_of_level c₁ c₂ hk hl)

/-- two-sided, or one-sided at level `≥ 1/2`: the probability asked for is `≥ 1/2`, so the critical
    value (Student or normal, any degrees of freedom) is at least the one at `1/2`, which is `0` -/
theorem crit_nonneg_of_level (hm : CritMono crit) (hh : CritHalf crit) (conf : Confidence Rex)
    (hv : ValidLevel conf) (hs : conf.isTwoSided = true ∨ 1 / 2 ≤ conf.level.val) :
    (∀ dof : Rex, 0 ≤ cOf crit conf dof) ∧ 0 ≤ zOf crit conf := by
  have hq : (⟨1 / 2⟩ : Rex).val ≤ conf.quantile.val := by
    rw [Confidence.quantile_val]
    split
    · exact div_le_div_of_nonneg_right (le_add_of_nonneg_right hv.1.le) two_pos.le
    · exact hs.resolve_left ‹_›
  refine ⟨fun dof => ?_, hh.2 ▸ hm.2 _ _ hq⟩
  unfold cOf critReq
  split
  · exact hh.1 dof ▸ hm.1 dof _ _ hq
  · exact hh.2 ▸ hm.2 _ _ hq

end crit

/-! ## exact arithmetic: the common tail `finish` -/

/-- Student-t is asked for (below the population limit) only with `dof > 0`: at exact arithmetic
    this says `dof > 0`, since a non-positive `dof` is below the limit -/
theorem dofOk_rex (d : Rex) :
    (lt d (populationLimit : Rex) = true → gt d (zero : Rex) = true) ↔ 0 < d.val := by
  simp only [RR.lt_iff, RR.gt_iff, RR.populationLimit_val, RR.zero_val, id_eq]
  constructor
  · intro h; by_contra hd; exact hd (h ((not_lt.mp hd).trans_lt (by norm_num)))
  · exact fun h _ => h

theorem gt_sub_add_eq_false (m h : ℝ) : gt (⟨m - h⟩ : Rex) ⟨m + h⟩ = false ↔ 0 ≤ h := by
  rw [gt_sub_add_rex, decide_eq_false_iff_not, not_lt]

/-- the last conjunct is `Interval::new` accepting `mean ∓ c·sem` -/
theorem finish_ok_iff_rex {crit : Crit Rex} {conf : Confidence Rex}
    {P : Outcome (Err Rex) (Arith.Prep Rex)} {I : Interval Rex} :
    finish crit conf P = .ok I ↔ ∃ p, P = .ok p ∧ 0 < p.dof.val ∧ probOk conf.quantile = true ∧
      I = shapeOf conf (⟨p.mean.val - cOf crit conf p.dof * p.sem.val⟩ : Rex)
        ⟨p.mean.val + cOf crit conf p.dof * p.sem.val⟩ ∧
      (conf.isTwoSided = true → 0 ≤ cOf crit conf p.dof * p.sem.val) := by
  rw [finish_eq_ok_iff]
  refine exists_congr fun p => and_congr_right fun _ => and_congr (dofOk_rex _) <|
    and_congr_right fun _ => and_congr Iff.rfl <| imp_congr_right fun _ =>
      gt_sub_add_eq_false p.mean.val (cOf crit conf p.dof * p.sem.val)

section tail
variable {crit : Crit Rex} {P : Outcome (Err Rex) (Arith.Prep Rex)}

/-- the interval of a successful tail contains the mean it was built on: for the two-sided kind
    because `Interval::new` accepted, for a one-sided kind when the critical value is non-negative -/
theorem finish_contains (conf : Confidence Rex) (I : Interval Rex) (h : finish crit conf P = .ok I)
    (hs : ∀ p, P = .ok p → 0 ≤ p.sem.val) :
    ∃ p, P = .ok p ∧ (conf.isTwoSided = true ∨ 0 ≤ cOf crit conf p.dof →
      I.contains p.mean = true) := by
  obtain ⟨p, hP, _, _, rfl, h2⟩ := finish_ok_iff_rex.mp h
  refine ⟨p, hP, fun hc => ?_⟩
  have hcs : 0 ≤ cOf crit conf p.dof * p.sem.val :=
    hc.elim h2 fun hc => mul_nonneg hc (hs p hP)
  exact shapeOf_contains conf (fun _ => (RR.le_iff _ _).mpr (sub_le_self _ hcs))
    (fun _ => (RR.le_iff _ _).mpr (le_add_of_nonneg_right hcs))

theorem finish_nested_of_crit_le (c₁ c₂ : Confidence Rex) (hk : c₁.kind = c₂.kind)
    (i₁ i₂ : Interval Rex) (h₁ : finish crit c₁ P = .ok i₁) (h₂ : finish crit c₂ P = .ok i₂)
    (hs : ∀ p, P = .ok p → 0 ≤ p.sem.val)
    (hc : ∀ p, P = .ok p → cOf crit c₁ p.dof ≤ cOf crit c₂ p.dof) : i₂.includes i₁ = true := by
  obtain ⟨p, hP, _, _, rfl, _⟩ := finish_ok_iff_rex.mp h₁
  obtain ⟨p', hP', _, _, rfl, _⟩ := finish_ok_iff_rex.mp h₂
  cases hP.symm.trans hP'
  have := mul_le_mul_of_nonneg_right (hc p hP) (hs p hP)
  exact shapeOf_includes hk (fun _ => (RR.le_iff _ _).mpr (sub_le_sub_left this _))
    (fun _ => (RR.le_iff _ _).mpr ((add_le_add_iff_left _).mpr this))

theorem finish_nested (hm : CritMono crit) (c₁ c₂ : Confidence Rex)
    (hk : c₁.kind = c₂.kind) (hl : c₁.level.val ≤ c₂.level.val) (i₁ i₂ : Interval Rex)
    (h₁ : finish crit c₁ P = .ok i₁) (h₂ : finish crit c₂ P = .ok i₂)
    (hs : ∀ p, P = .ok p → 0 ≤ p.sem.val) : i₂.includes i₁ = true :=
  finish_nested_of_crit_le c₁ c₂ hk i₁ i₂ h₁ h₂ hs fun p _ => cOf_mono hm hk hl p.dof

/-- the critical value of a two-sided request is non-negative, so `Interval::new` accepts -/
theorem finish_ok_of_valid (hm : CritMono crit) (hh : CritHalf crit) {p : Arith.Prep Rex}
    (hP : P = .ok p) (hd : 0 < p.dof.val) (hs : 0 ≤ p.sem.val) (conf : Confidence Rex)
    (hv : ValidLevel conf) :
    finish crit conf P = .ok (shapeOf conf (⟨p.mean.val - cOf crit conf p.dof * p.sem.val⟩ : Rex)
      ⟨p.mean.val + cOf crit conf p.dof * p.sem.val⟩) :=
  finish_ok_iff_rex.mpr ⟨p, hP, hd, probOk_of_validLevel hv, rfl, fun ht =>
    mul_nonneg ((crit_nonneg_of_level hm hh conf hv (Or.inl ht)).1 p.dof) hs⟩

theorem finish_ok_transfer (hm : CritMono crit) (hh : CritHalf crit) (c₁ c₂ : Confidence Rex)
    (hv₁ : ValidLevel c₁) (i₂ : Interval Rex) (h₂ : finish crit c₂ P = .ok i₂)
    (hs : ∀ p, P = .ok p → 0 ≤ p.sem.val) : ∃ i₁ : Interval Rex, finish crit c₁ P = .ok i₁ := by
  obtain ⟨p, hP, hd, _, _, _⟩ := finish_ok_iff_rex.mp h₂
  exact ⟨_, finish_ok_of_valid hm hh hP hd (hs p hP) c₁ hv₁⟩

end tail

/-! ### the statistics handed to the tail -/

theorem Arith.sem_nonneg (a : Arith Rex) (p : Arith.Prep Rex)
    (hP : (Arith.ciPrep a : Outcome (Err Rex) (Arith.Prep Rex)) = .ok p) : 0 ≤ p.sem.val := by
  obtain ⟨_, _, _, rfl⟩ := Arith.ciPrep_eq_ok_iff.mp hP
  exact div_nonneg (Real.sqrt_nonneg _) (Real.sqrt_nonneg _)

theorem Unpaired.sem_nonneg (u : Unpaired Rex) (p : Arith.Prep Rex)
    (hP : (Unpaired.ciPrep u : Outcome (Err Rex) (Arith.Prep Rex)) = .ok p) : 0 ≤ p.sem.val := by
  obtain ⟨_, _, _, _, rfl⟩ := Unpaired.ciPrep_eq_ok_iff.mp hP
  exact Real.sqrt_nonneg _

/-! ## exact arithmetic: the mean-type producers -/

theorem Arith.nested {crit : Crit Rex} (hm : CritMono crit) (a : Arith Rex)
    (c₁ c₂ : Confidence Rex) (hk : c₁.kind = c₂.kind) (hl : c₁.level.val ≤ c₂.level.val)
    (i₁ i₂ : Interval Rex) (h₁ : a.ciMean crit c₁ = .ok i₁) (h₂ : a.ciMean crit c₂ = .ok i₂) :
    i₂.includes i₁ = true :=
  finish_nested hm c₁ c₂ hk hl i₁ i₂ h₁ h₂ (Arith.sem_nonneg a)

theorem Unpaired.nested {crit : Crit Rex} (hm : CritMono crit) (u : Unpaired Rex)
    (c₁ c₂ : Confidence Rex) (hk : c₁.kind = c₂.kind) (hl : c₁.level.val ≤ c₂.level.val)
    (i₁ i₂ : Interval Rex) (h₁ : u.ciMean crit c₁ = .ok i₁) (h₂ : u.ciMean crit c₂ = .ok i₂) :
    i₂.includes i₁ = true :=
  finish_nested hm c₁ c₂ hk hl i₁ i₂ h₁ h₂ (Unpaired.sem_nonneg u)

/-! ### geometric: `exp` of the log-space interval -/

theorem contains_map_exp (J : Interval Rex) (x : Rex) (h : J.contains x = true) :
    (J.map Scalar.exp).contains (Scalar.exp x) = true := by
  cases J <;> simp only [Interval.map, Interval.contains, Bool.and_eq_true, RR.le_iff, RR.exp_val,
    id_eq, Real.exp_le_exp] at h ⊢ <;> exact h

theorem includes_map_exp (J₂ J₁ : Interval Rex) (h : J₂.includes J₁ = true) :
    (J₂.map Scalar.exp).includes (J₁.map Scalar.exp) = true := by
  cases J₂ <;> cases J₁ <;> simp only [Interval.map, Interval.includes, Bool.and_eq_true, RR.le_iff,
    RR.ge_iff, RR.exp_val, id_eq, Real.exp_le_exp, Bool.false_eq_true] at h ⊢ <;> exact h

theorem Geometric.ciMean_ok_iff_rex {crit : Crit Rex} {g : Geometric Rex} {conf : Confidence Rex}
    {I : Interval Rex} : g.ciMean crit conf = .ok I ↔
      ∃ J, g.logs.ciMean crit conf = .ok J ∧ I = J.map Scalar.exp := by
  rw [Geometric.ciMean_rex, Outcome.map_eq_ok_iff]

theorem Geometric.nested {crit : Crit Rex} (hm : CritMono crit) (g : Geometric Rex)
    (c₁ c₂ : Confidence Rex) (hk : c₁.kind = c₂.kind) (hl : c₁.level.val ≤ c₂.level.val)
    (i₁ i₂ : Interval Rex) (h₁ : g.ciMean crit c₁ = .ok i₁) (h₂ : g.ciMean crit c₂ = .ok i₂) :
    i₂.includes i₁ = true := by
  obtain ⟨J₁, hJ₁, rfl⟩ := Geometric.ciMean_ok_iff_rex.mp h₁
  obtain ⟨J₂, hJ₂, rfl⟩ := Geometric.ciMean_ok_iff_rex.mp h₂
  exact includes_map_exp J₂ J₁ (Arith.nested hm g.logs c₁ c₂ hk hl J₁ J₂ hJ₁ hJ₂)

/-! ## exact arithmetic: proportions -/

section proportion
open Proportion WilsonMono

/-- what the count tests leave: `n > 0` and the observed proportion `k/n` lies in `[0, 1]` -/
theorem ratio_mem {n k : ℕ} (h : k < n) :
    (0 : ℝ) < n ∧ (0 : ℝ) ≤ k ∧ (k : ℝ) ≤ n ∧ (0 : ℝ) ≤ (k : ℝ) / n ∧ (k : ℝ) / n ≤ 1 :=
  have h1 : (0 : ℝ) < n := Nat.cast_pos.mpr (Nat.zero_lt_of_lt h)
  have h2 : (k : ℝ) ≤ n := Nat.cast_le.mpr h.le
  ⟨h1, k.cast_nonneg, h2, div_nonneg k.cast_nonneg h1.le, (div_le_one h1).mpr h2⟩

/-- what `Interval::new` checks inside `Proportion.finish` -/
def PropAdm (conf : Confidence Rex) (m s : ℝ) : Prop :=
  WilsonRound.finLo id conf.kind m s ≤ WilsonRound.finHi id conf.kind m s

theorem propAdm_of_nonneg (conf : Confidence Rex) {m s : ℝ} (h0 : 0 ≤ m) (h1 : m ≤ 1)
    (hs : 0 ≤ s) : PropAdm conf m s :=
  WilsonRound.fin_ordered_of_nonneg conf.kind h0 h1 hs

theorem PropAdm.nonneg_of_twoSided {conf : Confidence Rex} {m s : ℝ} (h : PropAdm conf m s)
    (ht : conf.isTwoSided = true) : 0 ≤ s := by
  cases conf with
  | twoSided l => exact (gt_sub_add_eq_false m s).mp ((RR.gt_eq_false_iff _ _).mpr h)
  | upper l => cases ht
  | lower l => cases ht

theorem propShape_contains (conf : Confidence Rex) {lo hi x : Rex} (h0 : 0 ≤ x.val)
    (h1 : x.val ≤ 1) (hlo : lo.val ≤ x.val) (hhi : x.val ≤ hi.val) :
    (propShape conf lo hi).contains x = true := by
  cases conf
  · exact (contains_twoSided _ _ x.val).mpr ⟨hlo, hhi⟩
  · exact (contains_twoSided _ _ x.val).mpr ⟨hlo, h1⟩
  · exact (contains_twoSided _ _ x.val).mpr ⟨h0, hhi⟩

theorem pfinish_ok_iff_rex {conf : Confidence Rex} {m s : Rex} {I : Interval Rex} :
    Proportion.finish conf m s = .ok I ↔
      I = propShape conf (sub m s) (add m s) ∧ PropAdm conf m.val s.val := by
  rw [WilsonRound.finish_eq_fl, Outcome.ite_else_err_eq_ok_iff, Outcome.ok.injEq, and_comm, eq_comm]
  exact and_congr_left fun _ => by cases conf <;> rfl

theorem pLow_eq_lowerR (n k : ℕ) (z : ℝ) : pLow n k z = lowerR n k z :=
  (lowerR_eq_sub n k z).symm

theorem pHigh_eq_upperR (n k : ℕ) (z : ℝ) : pHigh n k z = upperR n k z :=
  (upperR_eq_add n k z).symm

theorem Wilson.one_vs_two (crit : Crit Rex) (L : ℝ) (n k : ℕ) (lo hi : Rex)
    (h : ciWilson crit (.twoSided ⟨2 * L - 1⟩) n k = .ok (.twoSided lo hi)) :
    ciWilson crit (.upper ⟨L⟩) n k = .ok (.twoSided lo ⟨1⟩) ∧
    ciWilson crit (.lower ⟨L⟩) n k = .ok (.twoSided ⟨0⟩ hi) := by
  obtain ⟨hk, hkn, hp, hI, _⟩ := ciWilson_ok_iff_rex.mp h
  rw [quantile_two] at hp
  rw [zOf_two] at hI
  cases hI
  exact ⟨ciWilson_ok_iff_rex.mpr ⟨hk, hkn, hp, rfl, nofun⟩,
    ciWilson_ok_iff_rex.mpr ⟨hk, hkn, hp, rfl, nofun⟩⟩

/-- no sign condition on the critical values: both Wilson ends are monotone in `z` on all of ℝ
    (`lowerR_anti`, `upperR_mono`), whatever the kind -/
theorem Wilson.nested_of_crit_le {crit : Crit Rex} (c₁ c₂ : Confidence Rex)
    (hk : c₁.kind = c₂.kind) (hz : zOf crit c₁ ≤ zOf crit c₂) (n k : ℕ)
    (i₁ i₂ : Interval Rex) (h₁ : ciWilson crit c₁ n k = .ok i₁)
    (h₂ : ciWilson crit c₂ n k = .ok i₂) : i₂.includes i₁ = true := by
  obtain ⟨_, hkn, _, rfl, _⟩ := ciWilson_ok_iff_rex.mp h₁
  obtain ⟨_, _, _, rfl, _⟩ := ciWilson_ok_iff_rex.mp h₂
  have hn0 : 0 < n := by omega
  have hkn0 : k ≤ n := by omega
  exact propShape_includes c₁ c₂ hk (lowerR_anti hn0 hkn0 hz) (upperR_mono hn0 hkn0 hz)

theorem Wilson.nested {crit : Crit Rex} (hm : CritMono crit) (c₁ c₂ : Confidence Rex)
    (hk : c₁.kind = c₂.kind) (hl : c₁.level.val ≤ c₂.level.val) (n k : ℕ)
    (i₁ i₂ : Interval Rex) (h₁ : ciWilson crit c₁ n k = .ok i₁)
    (h₂ : ciWilson crit c₂ n k = .ok i₂) : i₂.includes i₁ = true :=
  Wilson.nested_of_crit_le c₁ c₂ hk (zOf_mono hm hk hl) n k i₁ i₂ h₁ h₂

/-! ### Wald -/

theorem waldSd_nonneg (n k : ℕ) : 0 ≤ (waldSd n k : Rex).val := by
  simp only [waldSd, RR.sqrt_val, id_eq]; exact Real.sqrt_nonneg _

theorem ciZNormal_ok_iff_rex {crit : Crit Rex} {conf : Confidence Rex} {n k : ℕ} {I : Interval Rex} :
    ciZNormal crit conf n k = .ok I ↔ 10 ≤ k ∧ k + 10 ≤ n ∧ probOk conf.quantile = true ∧
      I = propShape conf (⟨(k : ℝ) / n - zOf crit conf * (waldSd n k : Rex).val⟩ : Rex)
        ⟨(k : ℝ) / n + zOf crit conf * (waldSd n k : Rex).val⟩ ∧
      PropAdm conf ((k : ℝ) / n) (zOf crit conf * (waldSd n k : Rex).val) := by
  rw [ciZNormal_eq_ok_iff, pfinish_ok_iff_rex]
  -- at `Rex`, `sub (waldP n k) x` is `⟨k/n − x.val⟩` by definition
  exact ⟨fun ⟨h1, h2, h3, h⟩ => ⟨h2, (Nat.le_sub_iff_add_le' h1).mp h3, h⟩,
    fun ⟨h2, h3, h⟩ => ⟨(Nat.le_add_right k 10).trans h3, h2, Nat.le_sub_of_add_le' h3, h⟩⟩

/-- a non-negative half-width passes `Interval::new` whatever the kind, since `0 ≤ k/n ≤ 1` -/
theorem ciZNormal_ok_of_nonneg {crit : Crit Rex} {conf : Confidence Rex} {n k : ℕ} (hk : 10 ≤ k)
    (hkn : k + 10 ≤ n) (hp : probOk conf.quantile = true)
    (hs : 0 ≤ zOf crit conf * (waldSd n k : Rex).val) :
    ciZNormal crit conf n k = .ok
      (propShape conf (⟨(k : ℝ) / n - zOf crit conf * (waldSd n k : Rex).val⟩ : Rex)
        ⟨(k : ℝ) / n + zOf crit conf * (waldSd n k : Rex).val⟩) := by
  obtain ⟨_, _, _, hr0, hr1⟩ := ratio_mem (by omega : k < n)
  exact ciZNormal_ok_iff_rex.mpr ⟨hk, hkn, hp, rfl, propAdm_of_nonneg conf hr0 hr1 hs⟩

theorem Wald.one_vs_two (crit : Crit Rex) (L : ℝ) (n k : ℕ) (lo hi : Rex)
    (h : ciZNormal crit (.twoSided ⟨2 * L - 1⟩) n k = .ok (.twoSided lo hi)) :
    ciZNormal crit (.upper ⟨L⟩) n k = .ok (.twoSided lo ⟨1⟩) ∧
    ciZNormal crit (.lower ⟨L⟩) n k = .ok (.twoSided ⟨0⟩ hi) := by
  obtain ⟨hk, hkn, hp, hI, hs⟩ := ciZNormal_ok_iff_rex.mp h
  have hs := hs.nonneg_of_twoSided rfl
  rw [quantile_two] at hp
  rw [zOf_two] at hI hs
  cases hI
  exact ⟨ciZNormal_ok_of_nonneg hk hkn hp hs, ciZNormal_ok_of_nonneg hk hkn hp hs⟩

theorem Wald.nested_of_crit_le {crit : Crit Rex} (c₁ c₂ : Confidence Rex)
    (hk : c₁.kind = c₂.kind) (hz : zOf crit c₁ ≤ zOf crit c₂) (n k : ℕ)
    (i₁ i₂ : Interval Rex) (h₁ : ciZNormal crit c₁ n k = .ok i₁)
    (h₂ : ciZNormal crit c₂ n k = .ok i₂) : i₂.includes i₁ = true := by
  obtain ⟨_, _, _, rfl, _⟩ := ciZNormal_ok_iff_rex.mp h₁
  obtain ⟨_, _, _, rfl, _⟩ := ciZNormal_ok_iff_rex.mp h₂
  have := mul_le_mul_of_nonneg_right hz (waldSd_nonneg n k)
  exact propShape_includes c₁ c₂ hk (sub_le_sub_left this _) ((add_le_add_iff_left _).mpr this)

theorem Wald.nested {crit : Crit Rex} (hm : CritMono crit) (c₁ c₂ : Confidence Rex)
    (hk : c₁.kind = c₂.kind) (hl : c₁.level.val ≤ c₂.level.val) (n k : ℕ)
    (i₁ i₂ : Interval Rex) (h₁ : ciZNormal crit c₁ n k = .ok i₁)
    (h₂ : ciZNormal crit c₂ n k = .ok i₂) : i₂.includes i₁ = true :=
  Wald.nested_of_crit_le c₁ c₂ hk (zOf_mono hm hk hl) n k i₁ i₂ h₁ h₂

end proportion

/-! ## exact arithmetic: quantile ranks -/

section quantile
open Quantile WilsonMono

theorem validLevel_two (L : ℝ) (h1 : 1 / 2 < L) (h2 : L < 1) :
    ValidLevel (.twoSided (⟨2 * L - 1⟩ : Rex)) :=
  ⟨sub_pos.mpr ((div_lt_iff₀' two_pos).mp h1),
    sub_lt_iff_lt_add.mpr ((two_mul L).trans_lt (add_lt_add h2 h2))⟩

theorem Quantile.one_vs_two (crit : Crit Rex) (L : ℝ) (h1 : 1 / 2 < L) (h2 : L < 1) (n : ℕ)
    (q : Rex) (lo hi : ℕ)
    (h : ciIndices crit (.twoSided ⟨2 * L - 1⟩) n q = .ok (.twoSided lo hi)) :
    ciIndices crit (.upper ⟨L⟩) n q = .ok (.upper lo) ∧
    ciIndices crit (.lower ⟨L⟩) n q = .ok (.lower hi) := by
  obtain ⟨hq, hn, hk, hf, _, hI⟩ :=
    (ciIndices_ok_iff crit _ n q (validLevel_two L h1 h2) _).mp h
  rw [zOf_two] at hI
  cases hI
  have hv : ValidLevel (.upper (⟨L⟩ : Rex)) := ⟨one_half_pos.trans h1, h2⟩
  exact ⟨(ciIndices_ok_iff crit _ n q hv _).mpr ⟨hq, hn, hk, hf, nofun, rfl⟩,
    (ciIndices_ok_iff crit (.lower ⟨L⟩) n q hv _).mpr ⟨hq, hn, hk, hf, nofun, rfl⟩⟩

/-- `⌊·⌋` and `min · (n−1)` are monotone, the Wilson bounds are monotone in `z` -/
theorem Quantile.nested_of_crit_le {crit : Crit Rex} (c₁ c₂ : Confidence Rex)
    (hv₁ : ValidLevel c₁) (hv₂ : ValidLevel c₂) (hk : c₁.kind = c₂.kind)
    (hz : zOf crit c₁ ≤ zOf crit c₂) (n : ℕ) (q : Rex) (i₁ i₂ : Interval ℕ)
    (h₁ : ciIndices crit c₁ n q = .ok i₁) (h₂ : ciIndices crit c₂ n q = .ok i₂) :
    i₂.includes i₁ = true := by
  obtain ⟨hq, hn, hk2, hf, _, rfl⟩ := (ciIndices_ok_iff crit c₁ n q hv₁ i₁).mp h₁
  obtain ⟨_, _, _, _, _, rfl⟩ := (ciIndices_ok_iff crit c₂ n q hv₂ i₂).mp h₂
  have hn0 : 0 < n := by omega
  have hkn : successes q.val n ≤ n := by omega
  refine shapeOf_includes hk (fun _ => decide_eq_true (rank_mono n ?_))
    (fun _ => decide_eq_true (rank_mono n ?_))
  · rw [pLow_eq_lowerR, pLow_eq_lowerR]; exact lowerR_anti hn0 hkn hz
  · rw [pHigh_eq_upperR, pHigh_eq_upperR]; exact upperR_mono hn0 hkn hz

theorem Quantile.nested {crit : Crit Rex} (hm : CritMono crit) (c₁ c₂ : Confidence Rex)
    (hv₁ : ValidLevel c₁) (hv₂ : ValidLevel c₂) (hk : c₁.kind = c₂.kind)
    (hl : c₁.level.val ≤ c₂.level.val) (n : ℕ) (q : Rex) (i₁ i₂ : Interval ℕ)
    (h₁ : ciIndices crit c₁ n q = .ok i₁) (h₂ : ciIndices crit c₂ n q = .ok i₂) :
    i₂.includes i₁ = true :=
  Quantile.nested_of_crit_le c₁ c₂ hv₁ hv₂ hk (zOf_mono hm hk hl) n q i₁ i₂ h₁ h₂

end quantile

/-! ## exact arithmetic: harmonic (reciprocal-space interval at the flipped confidence) -/

/-- every finite bound of a reciprocal-space interval is strictly positive (where the model's
    `recipBound r` is `1/r`) -/
def PosBounds (J : Interval Rex) : Prop :=
  match J with
  | .twoSided a b => 0 < a.val ∧ 0 < b.val
  | .upper a => 0 < a.val
  | .lower b => 0 < b.val

theorem le_recipBound {r s : Rex} (hr : 0 < r.val) (h : r.val ≤ s.val) :
    le (Harmonic.recipBound s) (Harmonic.recipBound r) = true := by
  rw [RR.le_iff, recipBound_fl_pos _ hr, recipBound_fl_pos _ (hr.trans_le h)]
  exact one_div_le_one_div_of_le hr h

theorem posBounds_shapeOf (c : Confidence Rex) (a b : Rex) :
    PosBounds (shapeOf c a b) ↔ (c.isLower = false → 0 < a.val) ∧ (c.isUpper = false → 0 < b.val) := by
  cases c
  · exact ⟨fun h => ⟨fun _ => h.1, fun _ => h.2⟩, fun h => ⟨h.1 rfl, h.2 rfl⟩⟩
  · exact ⟨fun h => ⟨fun _ => h, nofun⟩, fun h => h.1 rfl⟩
  · exact ⟨fun h => ⟨nofun, fun _ => h⟩, fun h => h.2 rfl⟩

/-- behind a successful harmonic call: the reciprocal-space interval `[a, b]` of the flipped kind,
    whose ends `recipBound` exchanges; the ends it has are positive by `hpos` -/
theorem Harmonic.recip_of_ok (crit : Crit Rex) (g : Harmonic Rex) (conf : Confidence Rex)
    (I : Interval Rex) (h : g.ciMean crit conf = .ok I)
    (hpos : ∀ J, g.recip.ciMean crit conf.flipped = .ok J → PosBounds J) :
    ∃ a b : Rex, g.recip.ciMean crit conf.flipped = .ok (shapeOf conf.flipped a b) ∧
      I = shapeOf conf (Harmonic.recipBound b) (Harmonic.recipBound a) ∧
      (conf.isUpper = false → 0 < a.val) ∧ (conf.isLower = false → 0 < b.val) := by
  obtain ⟨b, hb, rfl, hg⟩ := (Harmonic.kindForm crit g).eq_ok_iff.mp h
  have hJ : g.recip.ciMean crit conf.flipped = .ok (shapeOf conf.flipped b.1 b.2) :=
    (finish_kindForm crit (Arith.ciPrep g.recip)).eq_ok_iff.mpr
      ⟨b, by rwa [Confidence.flipped_quantile], rfl,
        fun ht => ⟨rfl, (hg (by rwa [Confidence.flipped_isTwoSided] at ht)).1⟩⟩
  have hp := hpos _ hJ
  rw [posBounds_shapeOf, Confidence.flipped_isLower, Confidence.flipped_isUpper] at hp
  exact ⟨b.1, b.2, hJ, rfl, hp⟩

theorem Harmonic.nested {crit : Crit Rex} (hm : CritMono crit) (g : Harmonic Rex)
    (c₁ c₂ : Confidence Rex) (hk : c₁.kind = c₂.kind) (hl : c₁.level.val ≤ c₂.level.val)
    (i₁ i₂ : Interval Rex) (h₁ : g.ciMean crit c₁ = .ok i₁) (h₂ : g.ciMean crit c₂ = .ok i₂)
    (hpos₁ : ∀ J, g.recip.ciMean crit c₁.flipped = .ok J → PosBounds J)
    (hpos₂ : ∀ J, g.recip.ciMean crit c₂.flipped = .ok J → PosBounds J) :
    i₂.includes i₁ = true := by
  obtain ⟨a₁, b₁, hJ₁, rfl, hp₁⟩ := Harmonic.recip_of_ok crit g c₁ i₁ h₁ hpos₁
  obtain ⟨a₂, b₂, hJ₂, rfl, hp₂⟩ := Harmonic.recip_of_ok crit g c₂ i₂ h₂ hpos₂
  have hinc := Arith.nested hm g.recip c₁.flipped c₂.flipped (Confidence.flipped_kind_eq c₁ c₂ hk)
    (by rw [Confidence.flipped_level, Confidence.flipped_level]; exact hl) _ _ hJ₁ hJ₂
  rw [shapeOf_includes_iff (Confidence.flipped_kind_eq c₁ c₂ hk), Confidence.flipped_isLower,
    Confidence.flipped_isUpper] at hinc
  exact shapeOf_includes hk
    (fun hL => le_recipBound (hp₁.2 hL) ((RR.le_iff _ _).mp (hinc.2 hL)))
    (fun hU => le_recipBound (hp₂.1 (Confidence.isUpper_congr hk ▸ hU))
      ((RR.le_iff _ _).mp (hinc.1 hU)))

/-! ## success for every valid confidence, and a concrete instance (used for non-vacuity) -/

section instances
open Proportion Quantile WilsonMono

theorem Arith.ciMean_ok_of_valid {crit : Crit Rex} (hm : CritMono crit) (hh : CritHalf crit)
    (a : Arith Rex) (hn : 2 ≤ a.count) (conf : Confidence Rex) (hv : ValidLevel conf) :
    a.ciMean crit conf = .ok (shapeOf conf
      (⟨a.mean.val - cOf crit conf (sub (Scalar.ofNat a.count) one) *
          (a.stdDev.val / Real.sqrt a.count)⟩ : Rex)
      ⟨a.mean.val + cOf crit conf (sub (Scalar.ofNat a.count) one) *
          (a.stdDev.val / Real.sqrt a.count)⟩) :=
  finish_ok_of_valid hm hh (Arith.ciPrep_rr_ok a hn) (Arith.prepOf_dof_pos a hn)
    (Arith.sem_nonneg a _ (Arith.ciPrep_rr_ok a hn)) conf hv

theorem cOf_linCrit (conf : Confidence Rex) (dof : Rex) :
    cOf linCrit conf dof = conf.quantile.val - 1 / 2 := by
  unfold cOf critReq; split <;> rfl

theorem zOf_linCrit (conf : Confidence Rex) : zOf linCrit conf = conf.quantile.val - 1 / 2 := rfl

noncomputable def exData : List ℝ := [1, 2, 4]
noncomputable def exArith : Arith Rex := Arith.fromList (exData.map inj)

theorem exArith_count : exArith.count = 3 := Arith.fromList_count _

theorem exArith_mean : exArith.mean.val = 7 / 3 := by
  rw [exArith, Arith.fromList_mean]; norm_num [smean, exData]

theorem exArith_sem_le : exArith.stdDev.val / Real.sqrt exArith.count ≤ 2 := by
  have hv : svar exData = 7 / 3 := MeanRound.svar_one_two_four
  have hsd : exArith.stdDev.val ≤ 2 := by
    rw [exArith, Arith.fromList_stdDev _ (by decide), ssd, hv, Real.sqrt_le_iff]
    norm_num
  -- dividing by `√n ≥ 1` does not increase
  exact (div_le_self (Real.sqrt_nonneg _)
    (Real.one_le_sqrt.mpr (by rw [exArith_count]; norm_num))).trans hsd

theorem exArith_ok (conf : Confidence Rex) (hv : ValidLevel conf) :
    ∃ J, exArith.ciMean linCrit conf = .ok J ∧ KindMatch conf J ∧ PosBounds J := by
  -- `|c| ≤ 1/2` (`c = q − 1/2` with `0 ≤ q ≤ 1`) and `0 ≤ sem ≤ 2`: the half-width `c·sem` is at
  -- most `1`, below the mean `7/3`
  have h73 : (1 : ℝ) < 7 / 3 := by norm_num
  have hq := (RR.probOk_iff _).mp (probOk_of_validLevel hv)
  have hc : |conf.quantile.val - 1 / 2| ≤ 1 / 2 :=
    abs_sub_le_iff.mpr ⟨sub_le_iff_le_add.mpr ((add_halves (1 : ℝ)).symm ▸ hq.2), sub_le_self _ hq.1⟩
  have s0 : 0 ≤ exArith.stdDev.val / Real.sqrt exArith.count :=
    div_nonneg (Real.sqrt_nonneg _) (Real.sqrt_nonneg _)
  have hw : |(conf.quantile.val - 1 / 2) * (exArith.stdDev.val / Real.sqrt exArith.count)| ≤ 1 := by
    rw [abs_mul, abs_of_nonneg s0]
    exact (mul_le_mul hc exArith_sem_le s0 one_half_pos.le).trans_eq
      (div_mul_cancel₀ (1 : ℝ) two_ne_zero)
  obtain ⟨h1, h2⟩ := abs_le.mp hw
  refine ⟨_, Arith.ciMean_ok_of_valid linCrit_mono linCrit_half exArith
    (by rw [exArith_count]; norm_num) conf hv, kindMatch_shapeOf _ _ _, ?_⟩
  rw [posBounds_shapeOf, cOf_linCrit, exArith_mean]
  exact ⟨fun _ => sub_pos.mpr (h2.trans_lt h73),
    fun _ => neg_lt_iff_pos_add'.mp ((neg_lt_neg h73).trans_le h1)⟩

theorem Harmonic.ciMean_ok_of_pos (crit : Crit Rex) (g : Harmonic Rex) (conf : Confidence Rex)
    (J : Interval Rex) (hJ : g.recip.ciMean crit conf.flipped = .ok J) (hp : PosBounds J) :
    ∃ I : Interval Rex, g.ciMean crit conf = .ok I := by
  obtain ⟨b, hb, rfl, hg⟩ := (finish_kindForm crit (Arith.ciPrep g.recip)).eq_ok_iff.mp hJ
  rw [Confidence.flipped_quantile] at hb
  rw [posBounds_shapeOf] at hp
  refine ⟨_, (Harmonic.kindForm crit g).eq_ok_iff.mpr ⟨b, hb, rfl, fun ht => ?_⟩⟩
  have hle := (hg (by rwa [Confidence.flipped_isTwoSided])).2
  have h1 : 0 < b.1.val := hp.1 (by cases conf <;> first | rfl | cases ht)
  refine ⟨hle, ?_⟩
  rw [RR.gt_eq_false_iff] at hle ⊢
  exact (RR.le_iff _ _).mp (le_recipBound h1 hle)

/-- the harmonic state whose reciprocal-space sample is `1, 2, 4` -/
noncomputable def exHarm : Harmonic Rex := ⟨exArith⟩
/-- the geometric state whose log-space sample is `1, 2, 4` -/
noncomputable def exGeo : Geometric Rex := ⟨exArith⟩
/-- the paired state whose differences are `1, 2, 4` -/
noncomputable def exPaired : Paired Rex := ⟨exArith⟩
/-- two samples `1, 2` and `3, 5` -/
noncomputable def exUnpaired : Unpaired Rex := Unpaired.fromLists ([1, 2].map inj) ([3, 5].map inj)

theorem exGeo_ok (conf : Confidence Rex) (hv : ValidLevel conf) :
    ∃ I, exGeo.ciMean linCrit conf = .ok I := by
  obtain ⟨J, hJ, _, _⟩ := exArith_ok conf hv
  exact ⟨_, Geometric.ciMean_ok_iff_rex.mpr ⟨J, hJ, rfl⟩⟩

theorem exHarm_ok (conf : Confidence Rex) (hv : ValidLevel conf) :
    (∃ I, exHarm.ciMean linCrit conf = .ok I) ∧ 0 < exHarm.recip.mean.val ∧
    ∀ J, exHarm.recip.ciMean linCrit conf.flipped = .ok J → PosBounds J := by
  have hv' : ValidLevel conf.flipped := by unfold ValidLevel; rw [Confidence.flipped_level]; exact hv
  obtain ⟨J, hJ, _, hp⟩ := exArith_ok conf.flipped hv'
  refine ⟨Harmonic.ciMean_ok_of_pos linCrit exHarm conf J hJ hp, ?_,
    fun J' hJ' => Outcome.ok.inj (hJ.symm.trans hJ') ▸ hp⟩
  show 0 < exArith.mean.val
  rw [exArith_mean]; norm_num

/-- whatever the data: the degrees of freedom handed on are bounded below by `min(na, nb) − 1 ≥ 1` -/
theorem Unpaired.ciMean_ok_of_valid {crit : Crit Rex} (hm : CritMono crit) (hh : CritHalf crit)
    (u : Unpaired Rex) (ha : 2 ≤ u.a.count) (hb : 2 ≤ u.b.count) (conf : Confidence Rex)
    (hv : ValidLevel conf) : ∃ I, u.ciMean crit conf = .ok I := by
  have hp := Unpaired.ciPrep_rr_ok u ha hb
  exact ⟨_, finish_ok_of_valid hm hh hp (Unpaired.dofW_pos u ha hb) (Unpaired.sem_nonneg u _ hp) conf hv⟩

theorem exUnpaired_ok (conf : Confidence Rex) (hv : ValidLevel conf) :
    ∃ I, exUnpaired.ciMean linCrit conf = .ok I :=
  Unpaired.ciMean_ok_of_valid linCrit_mono linCrit_half exUnpaired
    (Arith.fromList_count ([1, 2].map inj)).ge (Arith.fromList_count ([3, 5].map inj)).ge conf hv

theorem exWilson_ok (conf : Confidence Rex) (hv : ValidLevel conf) :
    ∃ I, ciWilson linCrit conf 10 3 = .ok I :=
  ⟨_, ciWilson_ok_iff_rex.mpr ⟨by norm_num, by norm_num, probOk_of_validLevel hv, rfl, fun ht =>
    (crit_nonneg_of_level linCrit_mono linCrit_half conf hv (Or.inl ht)).2⟩⟩

theorem exWald_ok (conf : Confidence Rex) (hv : ValidLevel conf)
    (hs : conf.isTwoSided = true ∨ 1 / 2 ≤ conf.level.val) :
    ∃ I, ciZNormal linCrit conf 30 12 = .ok I :=
  ⟨_, ciZNormal_ok_of_nonneg (by norm_num) (by norm_num) (probOk_of_validLevel hv)
    (mul_nonneg (crit_nonneg_of_level linCrit_mono linCrit_half conf hv hs).2 (waldSd_nonneg 30 12))⟩

theorem exQuantile_ok (conf : Confidence Rex) (hv : ValidLevel conf) :
    ∃ I, ciIndices linCrit conf 10 (inj (1 / 2)) = .ok I :=
  ⟨_, (ciIndices_ok_iff linCrit conf 10 _ hv _).mpr ⟨validQuantile_half, by norm_num,
    successes_half_ten_bounds.1, successes_half_ten_bounds.2,
    fun ht => (crit_nonneg_of_level linCrit_mono linCrit_half conf hv (Or.inl ht)).2, rfl⟩⟩

end instances

end StatsCI.Coherence
