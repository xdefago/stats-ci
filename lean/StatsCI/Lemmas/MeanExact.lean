/-
  StatsCI.Lemmas.MeanExact — `Arith` on the real carriers. At every `RR fl` the finiteness guards of
  `ci_mean` pass, the common tail `finish` is the constructor of the kind on the rounded
  `mean ∓ c·sem` (`finish_rr`), and `ci_mean` on a state whose counts the carrier represents has one
  closed form (`MeanRound.ciMean_fl`). At exact arithmetic `Rex = RR id`, measured against the
  sample statistics of `SampleStats`: the registers hold the exact sums, so mean and variance are the
  textbook ones (the quotient the model clamps at zero is `Σ(x − x̄)²/(n − 1) ≥ 0`) and the interval
  is `x̄ ∓ c·s/√n`.
-/
import StatsCI.Lemmas.RR
import StatsCI.Lemmas.EntryPoints
import StatsCI.Lemmas.SampleStats

namespace StatsCI.MeanLemmas
open StatsCI NumOps Scalar

section generic
variable {F : Type} [Scalar F]

/-- the quotient `(sum_sq - mean·sum)/(n - 1)` that `sample_variance()` clamps at zero -/
def rawVar (A : Arith F) : F :=
  div (sub A.sumSq.value (mul A.mean A.sum.value)) (Scalar.ofNat (A.count - 1))

theorem Arith.variance_eq_rawVar (A : Arith F) :
    A.variance = if lt (rawVar A) (zero : F) then zero else rawVar A := rfl

end generic

theorem Arith.variance_val {fl : ℝ → ℝ} (A : Arith (RR fl)) :
    A.variance.val = max 0 (rawVar A).val := by
  rw [Arith.variance_eq_rawVar]
  split <;> rename_i h
  · exact (max_eq_left ((RR.lt_iff _ _).mp h).le).symm
  · exact (max_eq_right (not_lt.mp fun k => h ((RR.lt_iff _ _).mpr k))).symm

/-- a map of the bounds that keeps (or, with the ends exchanged, reverses) the strict order keeps the
    verdict of `Interval::new` -/
theorem gt_congr {fl : ℝ → ℝ} {a b c d : RR fl} (h : b.val < a.val ↔ d.val < c.val) :
    gt a b = gt c d := by
  rw [Bool.eq_iff_iff, RR.gt_iff, RR.gt_iff]
  exact h

/-! ### the guards, where every finiteness test passes, and the common tail -/

theorem Arith.ciPrep_rr {fl : ℝ → ℝ} (A : Arith (RR fl)) :
    (Arith.ciPrep A : Outcome (Err (RR fl)) (Arith.Prep (RR fl))) =
      if A.count < 2 then .err (.tooFewSamples A.count) else .ok (Arith.prepOf A) := by
  rw [Arith.ciPrep_eq, if_pos (⟨rfl, rfl⟩ :
    isFinite (Widen.up A.mean : RR fl) = true ∧ isFinite (Widen.up A.stdDev : RR fl) = true)]

theorem Unpaired.ciPrep_rr {fl : ℝ → ℝ} (u : Unpaired (RR fl)) :
    (Unpaired.ciPrep u : Outcome (Err (RR fl)) (Arith.Prep (RR fl))) =
      if u.a.count < 2 then .err (.tooFewSamples u.a.count)
      else if u.b.count < 2 then .err (.tooFewSamples u.b.count) else .ok (Unpaired.prepOf u) := by
  rw [Unpaired.ciPrep_eq, if_pos (⟨rfl, rfl⟩ :
    isFinite (Unpaired.meanDiff u) = true ∧ isFinite (Unpaired.semF u) = true)]

theorem Arith.ciPrep_rr_ok {fl : ℝ → ℝ} (A : Arith (RR fl)) (hn : 2 ≤ A.count) :
    (Arith.ciPrep A : Outcome (Err (RR fl)) (Arith.Prep (RR fl))) = .ok (Arith.prepOf A) := by
  rw [Arith.ciPrep_rr, if_neg (Nat.not_lt.mpr hn)]

theorem Unpaired.ciPrep_rr_ok {fl : ℝ → ℝ} (u : Unpaired (RR fl)) (ha : 2 ≤ u.a.count)
    (hb : 2 ≤ u.b.count) :
    (Unpaired.ciPrep u : Outcome (Err (RR fl)) (Arith.Prep (RR fl))) = .ok (Unpaired.prepOf u) := by
  rw [Unpaired.ciPrep_rr, if_neg (Nat.not_lt.mpr ha), if_neg (Nat.not_lt.mpr hb)]

/-- the common tail on statistics that passed the guards, when the request for the critical value
    `c` can be served: the constructor of the kind on the rounded `mean ∓ c·sem` -/
theorem finish_rr {fl : ℝ → ℝ} (crit : Crit (RR fl)) (conf : Confidence (RR fl))
    (p : Arith.Prep (RR fl)) (hd : 0 < p.dof.val) (hp : probOk conf.quantile = true) :
    (finish crit conf (.ok p) : Outcome (Err (RR fl)) (Interval (RR fl))) =
      intervalOfKind conf
        (⟨fl (p.mean.val - fl ((crit (critReq conf p.dof)).val * p.sem.val))⟩ : RR fl)
        ⟨fl (p.mean.val + fl ((crit (critReq conf p.dof)).val * p.sem.val))⟩ := by
  rw [finish_ok, critValue_eq_ok_iff.mpr ⟨fun _ => (RR.gt_iff _ _).mpr hd, hp, rfl⟩,
    Outcome.bind_ok]
  rfl

theorem finish_rr_ppanic {fl : ℝ → ℝ} (crit : Crit (RR fl)) (conf : Confidence (RR fl))
    (p : Arith.Prep (RR fl)) (hd : 0 < p.dof.val) (hp : probOk conf.quantile = false) :
    (finish crit conf (.ok p) : Outcome (Err (RR fl)) (Interval (RR fl))) = .panic "inverse_cdf" := by
  rw [finish_ok_eq, if_pos, hp]
  · rfl
  · exact fun _ => (RR.gt_iff _ _).mpr hd

end StatsCI.MeanLemmas

namespace StatsCI.MeanRound
open StatsCI MeanLemmas NumOps Scalar

variable {fl : ℝ → ℝ}

theorem fromList_sum (xs : List ℝ) :
    (Arith.fromList (xs.map inj) : Arith (RR fl)).sum =
      (Kahan.empty : Kahan (RR fl)).addList (xs.map inj) :=
  (Arith.extend_fields (xs.map inj) (Arith.empty : Arith (RR fl))).1

/-- the `sum_sq` register is fed the rounded squares -/
theorem fromList_sumSq (xs : List ℝ) :
    (Arith.fromList (xs.map inj) : Arith (RR fl)).sumSq =
      (Kahan.empty : Kahan (RR fl)).addList (((xs.map fun x => x * x).map fl).map inj) := by
  refine (Arith.extend_fields (xs.map inj) (Arith.empty : Arith (RR fl))).2.1.trans ?_
  simp only [List.map_map]
  rfl

theorem fromList_count' (xs : List ℝ) :
    (Arith.fromList (xs.map inj) : Arith (RR fl)).count = xs.length := by
  rw [Arith.fromList_count, List.length_map]

theorem mean_val (a : Arith (RR fl)) : a.mean.val = fl (a.sum.value.val / fl a.count) := rfl

theorem variance_nonneg (a : Arith (RR fl)) : 0 ≤ a.variance.val := by
  rw [Arith.variance_val]; exact le_max_left 0 _

theorem stdDev_val (a : Arith (RR fl)) : a.stdDev.val = fl (Real.sqrt a.variance.val) := rfl

/-- the two bounds `ci_mean` computes at `RR fl` -/
noncomputable def loFl (a : Arith (RR fl)) (c : ℝ) : ℝ :=
  fl (a.mean.val - fl (c * fl (a.stdDev.val / fl (Real.sqrt a.count))))

noncomputable def hiFl (a : Arith (RR fl)) (c : ℝ) : ℝ :=
  fl (a.mean.val + fl (c * fl (a.stdDev.val / fl (Real.sqrt a.count))))

/-- `ci_mean` on a state with `n ≥ 2` entries whose counts the carrier represents (`dof = n - 1` is
    then exact): the constructor of the kind on the two bounds, at the answer to the one request -/
theorem ciMean_fl (crit : Crit (RR fl)) (a : Arith (RR fl)) (conf : Confidence (RR fl))
    (hn : 2 ≤ a.count) (hnat : ∀ m : ℕ, m ≤ a.count → fl m = m) (hp : probOk conf.quantile = true) :
    a.ciMean crit conf = intervalOfKind conf
      (⟨loFl a (crit (critReq conf ⟨(a.count : ℝ) - 1⟩)).val⟩ : RR fl)
      ⟨hiFl a (crit (critReq conf ⟨(a.count : ℝ) - 1⟩)).val⟩ := by
  have hdof : (Arith.prepOf a : Arith.Prep (RR fl)).dof = ⟨(a.count : ℝ) - 1⟩ := by
    apply RR.ext'
    show fl (fl a.count - 1) = (a.count : ℝ) - 1
    rw [hnat _ le_rfl, ← Nat.cast_pred (by omega : 0 < a.count), hnat _ (Nat.sub_le _ _)]
  rw [Arith.ciMean_eq_finish, Arith.ciPrep_rr_ok a hn,
    finish_rr crit conf _ (by rw [hdof]; exact natCast_sub_one_pos hn) hp, hdof]
  simp only [loFl, hiFl, Arith.prepOf, RR.up_eq, RR.div_val, RR.sqrt_val, RR.ofNat_val,
    hnat _ le_rfl]

end StatsCI.MeanRound

namespace StatsCI.MeanLemmas
open StatsCI NumOps Scalar

theorem Kahan.addList_exact (ys : List ℝ) (k : Kahan Rex) (hk : k.comp.val = 0) :
    (k.addList (ys.map inj)).sum.val = k.sum.val + ys.sum ∧
      (k.addList (ys.map inj)).comp.val = 0 := by
  induction ys generalizing k with
  | nil => exact ⟨(add_zero _).symm, hk⟩
  | cons y ys ih =>
    have step : (k.add (inj y)).sum.val = k.sum.val + y ∧ (k.add (inj y)).comp.val = 0 := by
      simp [Kahan.add, hk]
    obtain ⟨e1, e2⟩ := ih (k.add (inj y)) step.2
    exact ⟨e1.trans (by rw [step.1, List.sum_cons, add_assoc]), e2⟩

theorem Kahan.addList_value_exact (ys : List ℝ) :
    ((Kahan.empty : Kahan Rex).addList (ys.map inj)).value.val = ys.sum := by
  obtain ⟨e1, e2⟩ := Kahan.addList_exact ys Kahan.empty rfl
  show _ + _ = _
  rw [e1, e2, add_zero]
  exact zero_add _

theorem Arith.fromList_sum_value (xs : List ℝ) :
    (Arith.fromList (xs.map inj) : Arith Rex).sum.value.val = xs.sum := by
  rw [MeanRound.fromList_sum]
  exact Kahan.addList_value_exact xs

theorem Arith.fromList_sumSq_value (xs : List ℝ) :
    (Arith.fromList (xs.map inj) : Arith Rex).sumSq.value.val = MeanRound.sumSq xs := by
  rw [MeanRound.fromList_sumSq, List.map_id]
  exact Kahan.addList_value_exact _

theorem Arith.fromList_mean (xs : List ℝ) :
    (Arith.fromList (xs.map inj) : Arith Rex).mean.val = smean xs := by
  simp only [Arith.mean, RR.div_val, id_eq, Arith.fromList_sum_value, RR.ofNat_val,
    MeanRound.fromList_count', smean]

theorem Arith.fromList_rawVar (xs : List ℝ) :
    (rawVar (Arith.fromList (xs.map inj) : Arith Rex)).val =
      (MeanRound.sumSq xs - smean xs * xs.sum) / ((xs.length - 1 : ℕ) : ℝ) := by
  simp only [rawVar, RR.div_val, RR.sub_val, RR.mul_val, RR.ofNat_val, id_eq,
    MeanRound.fromList_count', Arith.fromList_sumSq_value, Arith.fromList_mean,
    Arith.fromList_sum_value]

theorem Arith.fromList_rawVar_eq_svar (xs : List ℝ) (hn : 2 ≤ xs.length) :
    (rawVar (Arith.fromList (xs.map inj) : Arith Rex)).val = svar xs := by
  rw [Arith.fromList_rawVar, Nat.cast_sub (by omega), Nat.cast_one, ← sdev2_eq xs (by omega)]
  rfl

/-- the quotient the model clamps is `Σ(x - x̄)²/(n-1) ≥ 0`: the clamp never fires -/
theorem Arith.fromList_variance (xs : List ℝ) (hn : 2 ≤ xs.length) :
    (Arith.fromList (xs.map inj) : Arith Rex).variance.val = svar xs := by
  rw [Arith.variance_val, Arith.fromList_rawVar_eq_svar xs hn]
  exact max_eq_right (svar_nonneg xs (by omega))

theorem Arith.fromList_stdDev (xs : List ℝ) (hn : 2 ≤ xs.length) :
    (Arith.fromList (xs.map inj) : Arith Rex).stdDev.val = ssd xs :=
  congrArg Real.sqrt (Arith.fromList_variance xs hn)

theorem critReq_rex (conf : Confidence Rex) (d : ℝ) :
    critReq conf (⟨d⟩ : Rex) =
      if d < 100000 then .t ⟨d⟩ conf.quantile else .z conf.quantile := by
  simpa using critReq_fl conf d

theorem intervalOfKind_pm (conf : Confidence Rex) (m h : ℝ) :
    intervalOfKind (W := Rex) conf (⟨m - h⟩ : Rex) ⟨m + h⟩ =
      match conf with
      | .twoSided _ =>
        if 0 ≤ h then .ok (.twoSided (⟨m - h⟩ : Rex) ⟨m + h⟩) else .err (.interval .invalidBounds)
      | .upper _ => .ok (.upper (⟨m - h⟩ : Rex))
      | .lower _ => .ok (.lower (⟨m + h⟩ : Rex)) := by
  rw [intervalOfKind_eq, gt_sub_add_rex]
  cases conf
  · by_cases hh : 0 ≤ h
    · simp [Confidence.isTwoSided, shapeOf, hh, not_lt.mpr hh]
    · simp [Confidence.isTwoSided, hh, not_le.mp hh]
  · rfl
  · rfl

theorem Arith.prepOf_dof_pos (a : Arith Rex) (hn : 2 ≤ a.count) :
    0 < (Arith.prepOf a : Arith.Prep Rex).dof.val :=
  MeanRound.natCast_sub_one_pos hn

theorem Arith.ciMean_rex (crit : Crit Rex) (a : Arith Rex) (conf : Confidence Rex)
    (hn : 2 ≤ a.count) (hp : probOk conf.quantile = true) :
    a.ciMean crit conf =
      intervalOfKind conf
        (⟨a.mean.val - (crit (critReq conf ⟨(a.count : ℝ) - 1⟩)).val *
            (a.stdDev.val / Real.sqrt a.count)⟩ : Rex)
        (⟨a.mean.val + (crit (critReq conf ⟨(a.count : ℝ) - 1⟩)).val *
            (a.stdDev.val / Real.sqrt a.count)⟩ : Rex) :=
  MeanRound.ciMean_fl crit a conf hn (fun _ _ => rfl) hp

theorem Arith.ciMean_rex_panic (crit : Crit Rex) (a : Arith Rex) (conf : Confidence Rex)
    (hn : 2 ≤ a.count) (hp : probOk conf.quantile = false) :
    a.ciMean crit conf = .panic "inverse_cdf" := by
  rw [Arith.ciMean_eq_finish, Arith.ciPrep_rr_ok a hn,
    finish_rr_ppanic crit conf _ (Arith.prepOf_dof_pos a hn) hp]

/-- the critical value requested for a sample of size `n` (`dof = n - 1`) -/
noncomputable def critVal (crit : Crit Rex) (conf : Confidence Rex) (n : ℕ) : ℝ :=
  (crit (critReq conf ⟨(n : ℝ) - 1⟩)).val

noncomputable def halfWidth (crit : Crit Rex) (conf : Confidence Rex) (xs : List ℝ) : ℝ :=
  critVal crit conf xs.length * ssd xs / Real.sqrt xs.length

theorem Arith.ci_rex (crit : Crit Rex) (conf : Confidence Rex) (xs : List ℝ)
    (hn : 2 ≤ xs.length) (hp : probOk conf.quantile = true) :
    Arith.ci crit conf (xs.map inj) =
      intervalOfKind conf (⟨smean xs - halfWidth crit conf xs⟩ : Rex)
        ⟨smean xs + halfWidth crit conf xs⟩ := by
  have hc := MeanRound.fromList_count' (fl := id) xs
  unfold Arith.ci
  rw [Arith.ciMean_rex crit _ conf (hc ▸ hn) hp, hc, Arith.fromList_mean,
    Arith.fromList_stdDev xs hn]
  simp only [halfWidth, critVal, mul_div_assoc]

theorem Arith.ci_rex_const (c : ℝ) (conf : Confidence Rex) (xs : List ℝ) (hn : 2 ≤ xs.length)
    (hp : probOk conf.quantile = true) :
    Arith.ci (constCrit c) conf (xs.map inj) =
      intervalOfKind conf (⟨smean xs - c * (ssd xs / Real.sqrt xs.length)⟩ : Rex)
        ⟨smean xs + c * (ssd xs / Real.sqrt xs.length)⟩ := by
  rw [Arith.ci_rex (constCrit c) conf xs hn hp]
  simp only [halfWidth, critVal, constCrit, mul_div_assoc]

end StatsCI.MeanLemmas
